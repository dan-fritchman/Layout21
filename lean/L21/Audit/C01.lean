import L21.Proofs.Gds
import L21.Proofs.GdsBytes
import L21.Proofs.GdsFloat
import L21.Proofs.GdsTree
import L21.Props.C01
#print axioms L21.Gds.c01_reader_accepts_writer_rows
#print axioms L21.Gds.c01_read_table_unambiguous
#print axioms L21.Gds.c01_string_written_iff
#print axioms L21.Gds.c01_string_roundtrip
#print axioms L21.Gds.c01_record_too_long
#print axioms L21.Gds.c01_total
#print axioms L21.GdsFloat.c15_decode_encode
#print axioms L21.Gds.c01_tree_roundtrip
#print axioms L21.Gds.c01_roundtrip
#print axioms L21.Gds.readRecord_encRecord
#print axioms L21.Gds.c01_lazy_reader_is_model
#print axioms L21.Gds.c01_roundtrip_lazy
