import L21.Proofs.Gds
import L21.Props.C02
#print axioms L21.Gds.c02_numbering
#print axioms L21.Gds.c02_datatypes
#print axioms L21.Gds.c02_table_pairs
#print axioms L21.Gds.c02_table_layouts
#print axioms L21.Gds.c02_framing_record
#print axioms L21.Gds.c02_framing
#print axioms L21.Gds.c02_ends_with_endlib
#print axioms L21.Gds.c02_grammar
