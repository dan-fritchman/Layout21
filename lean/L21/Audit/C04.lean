import L21.Proofs.LefDec
import L21.Proofs.LefEnum
import L21.Proofs.LefStmt
import L21.Proofs.LefStmtLib
import L21.Proofs.LefStmtSub
import L21.Props.C04
import L21.Props.C04L
import L21.Props.C04Order
import L21.Props.C05RT
import L21.Props.C11
import L21.Props.NumConsts
#print axioms L21.LefEnum.c04_enum_strings_canonical
#print axioms L21.LefEnum.c04_enum_no_shadowing
#print axioms L21.LefEnum.c04_case_insensitive
#print axioms L21.LefEnum.c04_dbu
#print axioms L21.LefEnum.c04_dbu_only_legal
#print axioms L21.LefLex.c11_tokens_are_substrings
#print axioms L21.Lef.c05_write_read_tokens
#print axioms L21.Lef.c05_decimal_text_roundtrip
#print axioms L21.Lef.c04_decimal_every_spelling
#print axioms L21.Lef.c04_trailing_zeros
#print axioms L21.Lef.c04_leading_zeros
#print axioms L21.Lef.c04_layout_tokens
#print axioms L21.Lef.c04_layout_independent
#print axioms L21.Lef.c04_parse_layout
#print axioms L21.Lef.c04_pin_any_order
#print axioms L21.Lef.c04_macro_any_order
#print axioms L21.Lef.c04_pin_reads_back
#print axioms L21.Lef.c04_macro_reads_back
#print axioms L21.Lef.c04_macro_order_free
#print axioms L21.Lef.rendersM_canon
#print axioms L21.Lef.c04_lib_any_order
#print axioms L21.Lef.c04_lib_any_order_noend
#print axioms L21.Lef.runL_fixed
#print axioms L21.Lef.c04_lib_reads_back
#print axioms L21.Lef.c04_units_any_order
#print axioms L21.c04_dbu_table_is_source
#print axioms L21.Lef.c04_site_any_order
#print axioms L21.Lef.c04_genvia_any_order
#print axioms L21.Lef.c04_text_any_order
#print axioms L21.Lef.c04_text_reads_back
#print axioms L21.Lef.wMacroToks_is_rendering
