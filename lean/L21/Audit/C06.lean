import L21.Proofs.RawGdsImport
import L21.Props.C06
import L21.Props.C12
import L21.Props.C17
import L21.Props.LayersT
#print axioms L21.RawGds.c06_array_count
#print axioms L21.RawGds.c06_array_positions
#print axioms L21.RawGds.c06_array_only_lattice
#print axioms L21.RawGds.c06_rect_ccw
#print axioms L21.RawGds.c06_rect_cw
#print axioms L21.RawGds.c06_empty_xy
#print axioms L21.RawGds.c06_zero_array
#print axioms L21.RawGds.c06_dangling_sref
#print axioms L21.RawGds.c06_abs_flags
#print axioms L21.RawGds.c06_path_width
#print axioms L21.Aff.c12_flatten
#print axioms L21.Dep.c17_cycle_error
#print axioms L21.RawGds.c06_struct_pass1
#print axioms L21.RawGds.c06_struct_error
#print axioms L21.RawGds.c06_label_rule
#print axioms L21.RawGds.c06_label_keeps_shapes
#print axioms L21.RawGds.c06_flatten
#print axioms L21.RawGds.c06_flatten_placed
#print axioms L21.RawGds.c06_classify_keeps
#print axioms L21.RawGds.demo_import
#print axioms L21.Layers.import_history_numbers
