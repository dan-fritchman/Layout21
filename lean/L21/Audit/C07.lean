import L21.Proofs.RawGdsRT
import L21.Props.C07
import L21.Props.LayersT
#print axioms L21.RawGds.c07_path_open
#print axioms L21.RawGds.c07_path_roundtrip
#print axioms L21.RawGds.c07_rect_roundtrip
#print axioms L21.RawGds.c07_units
#print axioms L21.RawGds.c07_orientation_roundtrip
#print axioms L21.RawGds.c07_label_inside_rect
#print axioms L21.RawGds.c07_label_inside_polygon
#print axioms L21.RawGds.c07_label_inside_path
#print axioms L21.RawGds.c07_cell_roundtrip
#print axioms L21.RawGds.c07_cell_roundtrip_nonets
#print axioms L21.RawGds.c07_label_names_one
#print axioms L21.RawGds.c07_library
#print axioms L21.Layers.layer_num_after_history
#print axioms L21.Layers.layer_num_never_forgets
#print axioms L21.Layers.get_or_insert_fidelity
#print axioms L21.Layers.get_or_insert_history
#print axioms L21.Layers.import_history_numbers
