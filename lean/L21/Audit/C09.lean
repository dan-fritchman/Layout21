import L21.Props.C09
#print axioms L21.Place.c09_touch
#print axioms L21.Place.c09_ref_reflection
#print axioms L21.Place.c09_all_abs
#print axioms L21.Place.c09_cycle
#print axioms L21.Place.c09_depends_only_on_reference
#print axioms L21.Place.c09_array_count
#print axioms L21.Place.c09_array
#print axioms L21.Place.c09_array_nested
#print axioms L21.Place.c09_mirror_involutive
#print axioms L21.Place.c09_result_intrinsic
#print axioms L21.Place.Placed_unique
#print axioms L21.Place.c09_order_indep
#print axioms L21.Place.c09_listing_indep
#print axioms L21.Place.c09_sorted_program_in_listing_order
