import L21.Proofs.Gds
import L21.Props.C01
import L21.Props.C10
#print axioms L21.Gds.c10_read_rows_safe
#print axioms L21.Gds.c10_progress
#print axioms L21.Gds.tokenize_fuel_mono
#print axioms L21.Gds.c10_needs_endlib
#print axioms L21.Gds.c10_total
#print axioms L21.Gds.c10_parser_fuel
#print axioms L21.Gds.c10_rewritable
#print axioms L21.Gds.c10_reencodable_partial
#print axioms L21.Gds.c01_lazy_reader_is_model
#print axioms L21.Gds.c10_needs_endlib_lazy
