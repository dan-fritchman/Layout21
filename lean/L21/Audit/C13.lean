import L21.Props.C13
#print axioms L21.Geom.c13_rect
#print axioms L21.Geom.c13_poly
#print axioms L21.Geom.c13_poly_boundary
#print axioms L21.Geom.c13_poly_vertex
#print axioms L21.Geom.c13_poly_far
#print axioms L21.Geom.c13_path
#print axioms L21.Geom.c13_start_vertex
#print axioms L21.Geom.c13_orientation
#print axioms L21.Geom.c13_repeated_vertex
#print axioms L21.Geom.c13_collinear_vertex
#print axioms L21.Geom.c13_collinear_vertex_closing
#print axioms L21.Geom.c13_rect_as_polygon
