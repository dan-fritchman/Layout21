import L21.Proofs.RawProto
import L21.Proofs.RawProtoAbs
import L21.Props.C14
#print axioms L21.RawProto.c14_rect_roundtrip
#print axioms L21.RawProto.c14_rect_second_trip
#print axioms L21.RawProto.c14_rect_same_region
#print axioms L21.RawProto.c14_net_roundtrip
#print axioms L21.RawProto.c14_path_roundtrip
#print axioms L21.RawProto.c14_export_order
#print axioms L21.RawProto.c14_cycle_is_error
#print axioms L21.RawProto.c14_pico_is_error
#print axioms L21.RawProto.c14_undefined_reference
#print axioms L21.RawProto.c14_missing_fields
#print axioms L21.RawProto.c14_layerless_shapes
#print axioms L21.RawProto.c14_elements_roundtrip
#print axioms L21.RawProto.c14_layout_roundtrip
#print axioms L21.RawProto.c14_proto_layout_roundtrip
#print axioms L21.RawProto.c14_library
#print axioms L21.RawProto.c14_abstract
#print axioms L21.RawProto.c14_converse_fails_on_second_purpose_number
#print axioms L21.RawProto.c14_converse_no_exporter
#print axioms L21.RawProto.c14_reexport_keeps_cell_order
#print axioms L21.RawProto.c14_message_roundtrip_layouts
#print axioms L21.RawProto.groupElems_canon
#print axioms L21.RawProto.c14_regroup_idempotent
#print axioms L21.RawProto.c14_export_fixed_point
#print axioms L21.RawProto.c14_exported_layout_canon
#print axioms L21.RawProto.c14_library_export_fixed_point
#print axioms L21.RawProto.c14_abstract_groups_canon
#print axioms L21.RawProto.c14_norm_idempotent
