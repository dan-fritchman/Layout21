import L21.Proofs.GdsFloat
import L21.Props.C15
#print axioms L21.GdsFloat.c15_encode_total
#print axioms L21.GdsFloat.c15_decode_encode
#print axioms L21.GdsFloat.c15_encode_normalised
#print axioms L21.GdsFloat.c15_encode_exact
#print axioms L21.GdsFloat.c15_encode_rejects
#print axioms L21.GdsFloat.rne_nearest
#print axioms L21.GdsFloat.c15_decode_rounds
#print axioms L21.GdsFloat.c15_encode_decode
#print axioms L21.GdsFloat.c15_zero
