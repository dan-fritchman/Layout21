import L21.Props.C17
#print axioms L21.Dep.c17_sound
#print axioms L21.Dep.c17_cycle_error
#print axioms L21.Dep.c17_depth
#print axioms L21.Dep.c17_error_means_cycle
#print axioms L21.Dep.c17_total
#print axioms L21.Dep.c17_acyclic_ok
#print axioms L21.Dep.c17_listing
#print axioms L21.Dep.c17_error_cycle_reachable
#print axioms L21.Dep.c17_error_iff
#print axioms L21.Dep.c17_sorted_listing_is_kept
#print axioms L21.Dep.c17_range_sorted
