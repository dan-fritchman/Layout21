import L21.Props.C17
import L21.Props.C19
#print axioms L21.TProto.c19_roundtrip
#print axioms L21.TProto.c19_cell_content
#print axioms L21.TProto.c19_err_no_outline
#print axioms L21.TProto.c19_err_bad_outline
#print axioms L21.TProto.c19_err_inst_no_cell
#print axioms L21.TProto.c19_err_inst_undefined
#print axioms L21.TProto.c19_err_inst_no_loc
#print axioms L21.TProto.c19_err_assign
#print axioms L21.TProto.c19_err_cross
#print axioms L21.TProto.c19_err_propagates_inst
#print axioms L21.TProto.c19_err_propagates_layout
#print axioms L21.TProto.c19_err_propagates_cell
#print axioms L21.Dep.c17_sound
#print axioms L21.TProto.c19_listed_order_is_export_order
