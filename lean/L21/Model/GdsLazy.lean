import L21.Model.Gds
/-
The reader of gds21 as the code runs it: `GdsParser` pulls records from the byte stream ONE AT A
TIME with one record of look-ahead (`nxt`), never reads past the first ENDLIB ("once we reach
EndLib, keep returning it forever"), and an undecodable record surfaces as an error of the
`next()` call that loads it — i.e. while the parser is consuming the record BEFORE it.

`Model/Gds.lean` instead tokenises eagerly up to the first ENDLIB and parses the record list
(`dec`).  `Proofs/GdsLazy.lean` proves `decLazy bs = dec bs` for every byte string, so every
theorem about `dec` (C01, C03, C10) is a theorem about this reading of the code too.

The per-record decisions of the element loops are shared with the list parser through
`elemAct` (`Proofs/GdsStep.lean: parseElem_step` shows the list parser takes exactly these steps).
-/
namespace L21.Gds

/-- `GdsParser`: the peeked record and the bytes not yet read -/
structure LS where
  nxt : Rec
  rest : Bytes
  deriving Repr

/-- `GdsParser::new`: decode the first record into the peek slot -/
def LS.init (bs : Bytes) : Out LS :=
  match readRecord bs with
  | .ok (r, rest) => .ok ⟨r, rest⟩
  | .err => .err

/-- `GdsParser::next`: hand out the peeked record and load the following one — unless the peeked
    record is ENDLIB, which is handed out forever without reading further -/
def LS.next (s : LS) : Out (Rec × LS) :=
  if s.nxt.rt = rEndLib then .ok (s.nxt, s)
  else match readRecord s.rest with
    | .ok (r, rest) => .ok (s.nxt, ⟨r, rest⟩)
    | .err => .err

/-- what one record does to an element under construction -/
inductive Act where
  | done                      -- ENDEL: build the element
  | upd (b : B)               -- a field record
  | prop (attr : Int)         -- PROPATTR: a PROPVALUE must follow immediately
  | strans (d0 d1 : Nat)      -- STRANS: MAG / ANGLE records may follow
  | bad

/-- the arms of `parse_boundary` … `parse_array_ref` -/
def elemAct (k : EK) (b : B) (r : Rec) : Act :=
  let hasStrans := k == .sref || k == .aref || k == .text
  let hasLayer := !(k == .sref || k == .aref)
  match r with
  | ⟨17, .none⟩ => .done
  | ⟨13, .ints [v]⟩ => if hasLayer then .upd { b with layer := some v } else .bad
  | ⟨16, .ints l⟩ => if xyOk k l then .upd { b with xy := some l } else .bad
  | ⟨47, .ints [v]⟩ => .upd { b with plex := some v }
  | ⟨38, .bits a c⟩ => .upd { b with elflags := some (a, c) }
  | ⟨43, .ints [attr]⟩ => .prop attr
  | ⟨26, .bits d0 d1⟩ => if hasStrans then .strans d0 d1 else .bad
  | ⟨18, .str n⟩ => if k == .sref || k == .aref then .upd { b with name := some n } else .bad
  | ⟨19, .ints [cs, rs]⟩ => if k == .aref then .upd { b with cols := some cs, rows := some rs } else .bad
  | ⟨15, .ints [v]⟩ => if k == .path || k == .text then .upd { b with width := some v } else .bad
  | ⟨33, .ints [v]⟩ => if k == .path || k == .text then .upd { b with pathType := some v } else .bad
  | ⟨48, .ints [v]⟩ => if k == .path then .upd { b with beginExtn := some v } else .bad
  | ⟨49, .ints [v]⟩ => if k == .path then .upd { b with endExtn := some v } else .bad
  | ⟨25, .str s⟩ => if k == .text then .upd { b with string := some s } else .bad
  | ⟨23, .bits a c⟩ => if k == .text then .upd { b with presentation := some (a, c) } else .bad
  | ⟨rt, .ints [v]⟩ => if rt = xtypeRec k then .upd { b with xtype := some v } else .bad
  | _ => .bad

/-- `parse_strans`: peek; while MAG / ANGLE, take it -/
def parseStransTailL : Nat → Strans → LS → Out (Strans × LS)
  | 0, _, _ => .err
  | f + 1, st, s =>
    match s.nxt with
    | ⟨27, .reals [m]⟩ =>
      (match s.next with
       | .ok (_, s') => parseStransTailL f { st with mag := some m } s'
       | .err => .err)
    | ⟨28, .reals [a]⟩ =>
      (match s.next with
       | .ok (_, s') => parseStransTailL f { st with angle := some a } s'
       | .err => .err)
    | _ => .ok (st, s)

/-- one element: `loop { let r = self.next()?; match r { … } }` -/
def parseElemL (k : EK) : Nat → B → LS → Out (Elem × LS)
  | 0, _, _ => .err
  | fuel + 1, b, s =>
    match s.next with
    | .err => .err
    | .ok (r, s1) =>
      match elemAct k b r with
      | .done => (match build k b with | .ok e => .ok (e, s1) | .err => .err)
      | .upd b' => parseElemL k fuel b' s1
      | .prop attr =>
        (match s1.next with
         | .ok (⟨44, .str v⟩, s2) => parseElemL k fuel { b with props := b.props ++ [⟨attr, v⟩] } s2
         | _ => .err)
      | .strans d0 d1 =>
        (match parseStransTailL (s1.rest.length + 2) (mkStrans d0 d1) s1 with
         | .ok (st, s2) => parseElemL k fuel { b with strans := some st } s2
         | .err => .err)
      | .bad => .err

/-- `parse_struct` after STRNAME: elements until ENDSTR -/
def parseElemsL : Nat → List Elem → LS → Out (List Elem × LS)
  | 0, _, _ => .err
  | fuel + 1, acc, s =>
    match s.next with
    | .err => .err
    | .ok (r, s1) =>
      if r.rt = rEndStruct ∧ r.pl = .none then .ok (acc, s1)
      else match elemKind r.rt with
        | none => .err
        | some k =>
          match parseElemL k (s1.rest.length + 2) {} s1 with
          | .err => .err
          | .ok (e, s2) => parseElemsL fuel (acc ++ [e]) s2

/-- the loop of `parse_lib` -/
def parseLibBodyL (version : Int) (dates : List Int) : Nat → LB → LS → Out Library
  | 0, _, _ => .err
  | fuel + 1, lb, s =>
    match s.next with
    | .err => .err
    | .ok (r, s1) =>
      match r with
      | ⟨4, .none⟩ =>
        (match lb.name, lb.units with
         | some n, some u => .ok ⟨n, version, dates, u, lb.structs⟩
         | _, _ => .err)
      | ⟨2, .str n⟩ => parseLibBodyL version dates fuel { lb with name := some n } s1
      | ⟨3, .reals [a, b]⟩ => parseLibBodyL version dates fuel { lb with units := some (a, b) } s1
      | ⟨5, .ints sdates⟩ =>
        (match s1.next with
         | .ok (⟨6, .str sname⟩, s2) =>
           (match parseElemsL (s2.rest.length + 2) [] s2 with
            | .err => .err
            | .ok (elems, s3) =>
              parseLibBodyL version dates fuel { lb with structs := lb.structs ++ [⟨sname, sdates, elems⟩] } s3)
         | _ => .err)
      | _ => .err

/-- `parse_lib`: HEADER, BGNLIB, then the loop -/
def parseLibL (s : LS) : Out Library :=
  match s.next with
  | .ok (⟨0, .ints [v]⟩, s1) =>
    (match s1.next with
     | .ok (⟨1, .ints dates⟩, s2) => parseLibBodyL v dates (s2.rest.length + 2) {} s2
     | _ => .err)
  | _ => .err

/-- `GdsLibrary::from_bytes` as the code runs it -/
def decLazy (bs : Bytes) : Out Library :=
  match LS.init bs with
  | .err => .err
  | .ok s => parseLibL s

end L21.Gds
