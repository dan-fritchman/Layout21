import L21.Model.LefLex
/-
Model of the error report of `lef21::read::LefParser` (`LefParser::state`, built by every
`fail`/`fail_msg`), and of the lexer bookkeeping it reads: `line`, `linestart`, `pos`.

The parser keeps one token of look-ahead, so at parser position k (token k is `next_tok`;
position n = end of input) the lexer stands right behind token k: `pos = stop_k`, and `line`,
`linestart` are what `lex_newline` last set them to (a line feed inside a string literal or a
comment does not count).  `state()` then slices the source three times:

    self.txt(&t)                     = &src[t.start .. t.stop]
    &self.src[self.lex.linestart ..]   .chars().take_while(!= '\n').take(200)

A Rust string slice panics when an index is past the end or inside a multi-byte character;
`dropBytes` / `sliceBytes` return `none` exactly then.  `Props/C11.lean` proves that `reports`
never contains `none`.
-/
namespace L21.LefLex

/-- a token with the lexer's `line` and `linestart` at the moment it was emitted -/
structure STok where
  tok : Tok
  line : Nat
  linestart : Nat
  deriving DecidableEq, Repr

/-- lexer state at end of input: (line, linestart, pos) -/
structure EndSt where
  line : Nat
  linestart : Nat
  pos : Nat
  deriving DecidableEq, Repr

/-- `lexFrom` with the line bookkeeping of `lex_newline` -/
def lexStFrom (isWs : Char → Bool) : Nat → Nat → Nat → Nat → List Char → Out (List STok × EndSt)
  | 0, _, _, _, _ => .err
  | _, pos, line, ls, [] => .ok ([], ⟨line, ls, pos⟩)
  | fuel + 1, pos, line, ls, c :: rest =>
    if c == '\n' || isWs c then
      let run := if c == '\n' then ([], rest) else spanP (fun d => isAsciiWs d && d != '\n') rest
      let pos' := pos + c.utf8Size + bytes run.1
      if c == '\n' then lexStFrom isWs fuel pos' (line + 1) pos' run.2
      else lexStFrom isWs fuel pos' line ls run.2
    else if c == ';' then
      match lexStFrom isWs fuel (pos + 1) line ls rest with
      | .ok (ts, e) => .ok (⟨⟨.semi, pos, pos + 1⟩, line, ls⟩ :: ts, e)
      | .err => .err
    else if c == '"' then
      let (body, after) := spanP (fun d => d != '"') rest
      let (closing, rest') := match after with | q :: r => ([q], r) | [] => ([], [])
      let stop := pos + 1 + bytes body + bytes closing
      match lexStFrom isWs fuel stop line ls rest' with
      | .ok (ts, e) => .ok (⟨⟨.string, pos, stop⟩, line, ls⟩ :: ts, e)
      | .err => .err
    else if c == '#' then
      let (body, after) := spanP (fun d => d != '\n') rest
      lexStFrom isWs fuel (pos + 1 + bytes body) line ls after
    else if isDigit c || c == '.' || c == '-' || c == '+' then
      let (body, after) := spanP (fun d => !isWs d) rest
      let stop := pos + c.utf8Size + bytes body
      match lexStFrom isWs fuel stop line ls after with
      | .ok (ts, e) => .ok (⟨⟨if isNumberText (c :: body) then .number else .name, pos, stop⟩, line, ls⟩ :: ts, e)
      | .err => .err
    else
      let (body, after) := spanP (fun d => !isWs d) rest
      let stop := pos + c.utf8Size + bytes body
      match lexStFrom isWs fuel stop line ls after with
      | .ok (ts, e) => .ok (⟨⟨.name, pos, stop⟩, line, ls⟩ :: ts, e)
      | .err => .err

/-- `LefLexer::new` starts at line 1, linestart 0 -/
def lexSt (isWs : Char → Bool) (src : List Char) : Out (List STok × EndSt) :=
  lexStFrom isWs (src.length + 1) 0 1 0 src

/-- `&src[n..]`: `none` when `n` is past the end or inside a character (Rust panics) -/
def dropBytes : Nat → List Char → Option (List Char)
  | 0, l => some l
  | _ + 1, [] => none
  | n + 1, c :: l => if c.utf8Size ≤ n + 1 then dropBytes (n + 1 - c.utf8Size) l else none

/-- the first `n` bytes of a text, as whole characters; `none` when `n` is not a boundary -/
def takeBytes : Nat → List Char → Option (List Char)
  | 0, _ => some []
  | _ + 1, [] => none
  | n + 1, c :: l =>
    if c.utf8Size ≤ n + 1 then (takeBytes (n + 1 - c.utf8Size) l).map (c :: ·) else none

/-- `&src[a..b]` -/
def sliceBytes (a b : Nat) (src : List Char) : Option (List Char) :=
  if a ≤ b then (dropBytes a src).bind (takeBytes (b - a)) else none

def maxCharsInLine : Nat := 200

/-- `ParserState` without the context stack -/
structure Report where
  lineContent : List Char
  lineNum : Nat
  token : List Char
  pos : Nat
  deriving DecidableEq, Repr

def lineContentAt (src : List Char) (linestart : Nat) : Option (List Char) :=
  (dropBytes linestart src).map (fun rest => (rest.takeWhile (· != '\n')).take maxCharsInLine)

/-- `LefParser::state` at a token position -/
def reportAt (src : List Char) (t : STok) : Option Report :=
  match sliceBytes t.tok.start t.tok.stop src, lineContentAt src t.linestart with
  | some txt, some lc => some ⟨lc, t.line, txt, t.tok.stop⟩
  | _, _ => none

/-- `LefParser::state` at end of input (`next_tok = None`) -/
def reportEnd (src : List Char) (e : EndSt) : Option Report :=
  (lineContentAt src e.linestart).map (fun lc => ⟨lc, e.line, "EOF".toList, e.pos⟩)

/-- the report at every parser position 0..=n; `none` = the real code would panic there -/
def reports (isWs : Char → Bool) (src : List Char) : Out (List (Option Report)) :=
  match lexSt isWs src with
  | .err => .err
  | .ok (ts, e) => .ok (ts.map (reportAt src) ++ [reportEnd src e])

end L21.LefLex
