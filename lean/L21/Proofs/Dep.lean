import L21.Model.Dep
/-
Lemmas for C17.  `Pre`: what holds at a call of `push` / `pushAll`; `Post`: what each of the three outcomes then means;
every C17 theorem about an outcome reads off `order_post` (as `order_ok_spec`, `order_cycle_spec`, `order_fuel_spec`).
-/
namespace L21.Dep

variable (adj : Nat → List Nat)

inductive Reach : Nat → Nat → Prop where
  | refl (x : Nat) : Reach x x
  | step {x d y : Nat} : d ∈ adj x → Reach d y → Reach x y

theorem Reach.trans {adj} {x y z : Nat} (h1 : Reach adj x y) (h2 : Reach adj y z) : Reach adj x z := by
  induction h1 with
  | refl => exact h2
  | step hd _ ih => exact Reach.step hd (ih h2)

/-- a dependencies-first order; snoc-inductive: the shape in which `push` extends `stack` -/
inductive Topo : List Nat → Prop where
  | nil : Topo []
  | snoc {l : List Nat} {x : Nat} : Topo l → x ∉ l → (∀ d ∈ adj x, d ∈ l) → Topo (l ++ [x])

theorem Topo.nodup {adj} {l : List Nat} (h : Topo adj l) : l.Nodup := by
  induction h with
  | nil => exact List.nodup_nil
  | snoc _ hx _ ih =>
    refine List.nodup_append.2 ⟨ih, by simp, fun a ha b hb e => hx ?_⟩
    rwa [← List.mem_singleton.1 hb, ← e]

theorem Topo.deps_before {adj} {l : List Nat} (h : Topo adj l) :
    ∀ l1 x l2, l = l1 ++ x :: l2 → ∀ d ∈ adj x, d ∈ l1 := by
  induction h with
  | nil => intro l1 x l2 e; simp at e
  | @snoc l y hl hy hd ih =>
    intro l1 x l2 e d hdx
    rcases List.eq_nil_or_concat l2 with rfl | ⟨l2', z, rfl⟩
    · obtain ⟨rfl, e2⟩ := List.append_inj' e rfl
      cases e2
      exact hd d hdx
    · rw [List.concat_eq_append, ← List.cons_append, ← List.append_assoc] at e
      exact ih l1 x l2' (List.append_inj' e rfl).1 d hdx

theorem Topo.closed {adj} {l : List Nat} (h : Topo adj l) : ∀ x ∈ l, ∀ d ∈ adj x, d ∈ l := by
  intro x hx d hd
  obtain ⟨l1, l2, rfl⟩ := List.append_of_mem hx
  exact List.mem_append_left _ (h.deps_before l1 x l2 rfl d hd)

theorem Topo.reach_closed {adj} {l : List Nat} (h : Topo adj l) {x y : Nat} (hx : x ∈ l) (r : Reach adj x y) : y ∈ l := by
  induction r with
  | refl => exact hx
  | step hd _ ih => exact ih (h.closed _ hx _ hd)

theorem Topo.acyclic {adj} {l : List Nat} (h : Topo adj l) : ∀ x ∈ l, ∀ d ∈ adj x, ¬ Reach adj d x := by
  induction h with
  | nil => intro x hx; simp at hx
  | @snoc l y hl hy hd ih =>
    intro x hx d hdx r
    rw [List.mem_append] at hx
    rcases hx with hx | hx
    · exact ih x hx d hdx r
    · simp at hx; subst hx
      exact hy (hl.reach_closed (hd d hdx) r)

def HasCycle : Prop := ∃ y d, d ∈ adj y ∧ Reach adj d y

def Bounded (n : Nat) : Prop := ∀ x, ∀ d ∈ adj x, d < n

theorem Reach.lt {adj} {n x y : Nat} (hb : Bounded adj n) (r : Reach adj x y) (hx : x < n) : y < n := by
  induction r with
  | refl => exact hx
  | step hd _ ih => exact ih (hb _ _ hd)

def From (xs : List Nat) (y : Nat) : Prop := ∃ x ∈ xs, Reach adj x y

theorem From.mono {adj} {xs ys : List Nat} {y : Nat} (h : ∀ x ∈ xs, x ∈ ys) : From adj xs y → From adj ys y
  | ⟨x, hx, r⟩ => ⟨x, h x hx, r⟩

/-- what holds when a call is made; `back`: each open frame of `P` reaches every item about to be pushed through at least one edge -/
structure Pre (stack P xs : List Nat) : Prop where
  topo : Topo adj stack
  nodup : P.Nodup
  back : ∀ p ∈ P, ∀ x ∈ xs, ∃ d ∈ adj p, Reach adj d x

theorem Pre.mono {adj} {stack P xs ys : List Nat} (h : Pre adj stack P ys) (hs : ∀ x ∈ xs, x ∈ ys) : Pre adj stack P xs :=
  ⟨h.topo, h.nodup, fun p hp x hx => h.back p hp x (hs x hx)⟩

/-- what the call returns.
    `ok`: a dependencies-first order with all of `xs` in it, extending `stack` by nodes reachable from `xs`, none of them open;
    `cycle`: a cycle reachable from `xs`; `fuel`: `f` further distinct frames, all reachable from `xs`, were opened. -/
def Post (stack P xs : List Nat) (f : Nat) : Res → Prop
  | .ok st => Topo adj st ∧ (∀ x ∈ xs, x ∈ st) ∧ ∃ t, st = stack ++ t ∧ ∀ y ∈ t, y ∉ P ∧ From adj xs y
  | .cycle => ∃ y, From adj xs y ∧ ∃ d ∈ adj y, Reach adj d y
  | .fuel => ∃ Q, Q.length = f ∧ (Q ++ P).Nodup ∧ ∀ q ∈ Q, From adj xs q

theorem post_push {f : Nat}
    (ih : ∀ xs stack P, Pre adj stack P xs → Post adj stack P xs f (pushAll adj f xs stack P))
    (x : Nat) (stack P : List Nat) (h : Pre adj stack P [x]) : Post adj stack P [x] (f + 1) (push adj (f + 1) x stack P) := by
  rw [push]
  by_cases h1 : x ∈ stack
  · simp only [h1, if_true]; exact ⟨h.topo, by simpa using h1, [], by simp, by simp⟩
  by_cases h2 : x ∈ P
  · -- the reported cycle: `x` is open and reaches itself
    simp only [h1, h2, if_true, if_false]
    obtain ⟨d, hd, r⟩ := h.back x h2 x (by simp)
    exact ⟨x, ⟨x, by simp, .refl x⟩, d, hd, r⟩
  simp only [h1, h2, if_false]
  have hrec := ih (adj x) stack (x :: P) ⟨h.topo, List.nodup_cons.2 ⟨h2, h.nodup⟩, by
    intro p hp d hd
    rcases List.mem_cons.1 hp with rfl | hp
    · exact ⟨d, hd, .refl d⟩
    · obtain ⟨e, he, r⟩ := h.back p hp x (by simp)
      exact ⟨e, he, r.trans (.step hd (.refl d))⟩⟩
  have up : ∀ y, From adj (adj x) y → From adj [x] y := fun y ⟨d, hd, r⟩ => ⟨x, by simp, .step hd r⟩
  have self : From adj [x] x := ⟨x, by simp, .refl x⟩
  cases hpa : pushAll adj f (adj x) stack (x :: P) with
  | ok st =>
    obtain ⟨ht, m, t, e, hu⟩ := hpa ▸ hrec
    have hx : x ∉ st := by
      rw [e, List.mem_append]
      rintro (hx | hx)
      · exact h1 hx
      · exact (hu x hx).1 (by simp)
    refine ⟨.snoc ht hx m, by simp, t ++ [x], by simp [e], fun y hy => ?_⟩
    rcases List.mem_append.1 hy with hy | hy
    · exact ⟨fun hp => (hu y hy).1 (List.mem_cons_of_mem _ hp), up y (hu y hy).2⟩
    · rw [List.mem_singleton.1 hy]; exact ⟨h2, self⟩
  | cycle => obtain ⟨y, hy, c⟩ := hpa ▸ hrec; exact ⟨y, up y hy, c⟩
  | fuel =>
    obtain ⟨Q, hl, hnd, hq⟩ := hpa ▸ hrec
    refine ⟨Q ++ [x], by simp [hl], by simpa using hnd, fun q hq' => ?_⟩
    rcases List.mem_append.1 hq' with hq' | hq'
    · exact up q (hq q hq')
    · rw [List.mem_singleton.1 hq']; exact self

theorem post_all {f : Nat}
    (hp : ∀ x stack P, Pre adj stack P [x] → Post adj stack P [x] f (push adj f x stack P)) :
    ∀ xs stack P, Pre adj stack P xs → Post adj stack P xs f (pushAll adj f xs stack P) := by
  intro xs
  induction xs with
  | nil => intro stack P h; rw [pushAll]; exact ⟨h.topo, by simp, [], by simp, by simp⟩
  | cons y ys ih =>
    intro stack P h
    have hy := hp y stack P (h.mono (by simp))
    have sub : ∀ x ∈ ys, x ∈ y :: ys := fun x => List.mem_cons_of_mem y
    rw [pushAll]
    cases hpy : push adj f y stack P with
    | cycle => obtain ⟨z, hz, c⟩ := hpy ▸ hy; exact ⟨z, hz.mono (by simp), c⟩
    | fuel => obtain ⟨Q, hl, hnd, hq⟩ := hpy ▸ hy; exact ⟨Q, hl, hnd, fun q h' => (hq q h').mono (by simp)⟩
    | ok st1 =>
      dsimp only
      obtain ⟨ht1, m1, t1, e1, hu1⟩ := hpy ▸ hy
      have hys := ih st1 P ⟨ht1, h.nodup, fun p hp x hx => h.back p hp x (sub x hx)⟩
      cases hpa : pushAll adj f ys st1 P with
      | cycle => obtain ⟨z, hz, c⟩ := hpa ▸ hys; exact ⟨z, hz.mono sub, c⟩
      | fuel => obtain ⟨Q, hl, hnd, hq⟩ := hpa ▸ hys; exact ⟨Q, hl, hnd, fun q h' => (hq q h').mono sub⟩
      | ok st =>
        obtain ⟨ht2, m2, t2, e2, hu2⟩ := hpa ▸ hys
        refine ⟨ht2, ?_, t1 ++ t2, by simp [e2, e1], fun z hz => ?_⟩
        · intro x hx
          rcases List.mem_cons.1 hx with rfl | hx
          · rw [e2]; exact List.mem_append_left _ (m1 x (by simp))
          · exact m2 x hx
        · rcases List.mem_append.1 hz with hz | hz
          · exact ⟨(hu1 z hz).1, (hu1 z hz).2.mono (by simp)⟩
          · exact ⟨(hu2 z hz).1, (hu2 z hz).2.mono sub⟩

theorem post (f : Nat) : ∀ xs stack P, Pre adj stack P xs → Post adj stack P xs f (pushAll adj f xs stack P) := by
  induction f with
  | zero => exact post_all adj fun x stack P h => by rw [push]; exact ⟨[], rfl, by simpa using h.nodup, by simp⟩
  | succ f ih => exact post_all adj (post_push adj ih)

theorem order_post (f : Nat) (items : List Nat) : Post adj [] [] items f (order adj f items) :=
  post adj f items [] [] ⟨.nil, .nil, by simp⟩

theorem order_ok_spec {adj} {f : Nat} {items out : List Nat} (h : order adj f items = .ok out) :
    Topo adj out ∧ (∀ i ∈ items, i ∈ out) ∧ ∀ y ∈ out, From adj items y := by
  obtain ⟨ht, m, t, e, hu⟩ := h ▸ order_post adj f items
  rw [List.nil_append] at e; subst e
  exact ⟨ht, m, fun y hy => (hu y hy).2⟩

theorem order_cycle_spec {adj} {f : Nat} {items : List Nat} (h : order adj f items = .cycle) :
    ∃ y, From adj items y ∧ ∃ d ∈ adj y, Reach adj d y :=
  (h ▸ order_post adj f items : Post adj [] [] items f .cycle)

theorem order_fuel_spec {adj} {f : Nat} {items : List Nat} (h : order adj f items = .fuel) :
    ∃ Q : List Nat, Q.length = f ∧ Q.Nodup ∧ ∀ q ∈ Q, From adj items q :=
  let ⟨Q, hl, hnd, hq⟩ := h ▸ order_post adj f items
  ⟨Q, hl, List.append_nil Q ▸ hnd, hq⟩

theorem order_mem {adj} {f : Nat} {items out : List Nat} (h : order adj f items = .ok out) : ∀ i ∈ items, i ∈ out :=
  (order_ok_spec h).2.1

theorem order_nodup {adj} {f : Nat} {items out : List Nat} (h : order adj f items = .ok out) : out.Nodup :=
  (order_ok_spec h).1.nodup

theorem pushAll_done (f : Nat) (stack pending : List Nat) :
    ∀ ds : List Nat, (∀ d ∈ ds, d ∈ stack) → pushAll adj (f + 1) ds stack pending = .ok stack
  | [], _ => by rw [pushAll]
  | d :: r, h => by
    rw [pushAll, push, if_pos (h d (by simp))]
    exact pushAll_done f stack pending r fun x hx => h x (by simp [hx])

theorem pushAll_topo (f : Nat) : ∀ (ys stack : List Nat), Topo adj (stack ++ ys) →
    pushAll adj (f + 2) ys stack [] = .ok (stack ++ ys)
  | [], stack, _ => by rw [pushAll, List.append_nil]
  | y :: r, stack, h => by
    have hy : y ∉ stack := fun hm => (List.nodup_append.1 h.nodup).2.2 y hm y (by simp) rfl
    rw [pushAll, push, if_neg hy, if_neg List.not_mem_nil, pushAll_done adj f stack [y] (adj y) (h.deps_before stack y r rfl)]
    rw [List.append_cons] at h ⊢
    exact pushAll_topo f r (stack ++ [y]) h

/-- Returned unchanged for any budget ≥ 2: one frame for the item, one for the look at its dependencies, which are
    all on the stack already. -/
theorem order_topo {adj : Nat → List Nat} (f : Nat) {items : List Nat} (h : Topo adj items) :
    order adj (f + 2) items = .ok items :=
  pushAll_topo adj f items [] h

theorem Topo.of_take {adj : Nat → List Nat} {items : List Nat} (hnd : items.Nodup)
    (hdeps : ∀ i (hi : i < items.length), ∀ d ∈ adj items[i], d ∈ items.take i) :
    ∀ n, n ≤ items.length → Topo adj (items.take n)
  | 0, _ => .nil
  | n + 1, hn => by
    rw [List.take_succ_eq_append_getElem hn]
    refine .snoc (of_take hnd hdeps n (Nat.le_of_succ_le hn)) (fun hm => ?_) (hdeps n hn)
    obtain ⟨j, hj, e⟩ := List.mem_take_iff_getElem.1 hm
    exact Nat.lt_irrefl n ((List.getElem_inj hnd).1 e ▸ (Nat.lt_min.1 hj).1)

theorem Topo.range {adj : Nat → List Nat} : ∀ n, (∀ i, i < n → ∀ d ∈ adj i, d < i) → Topo adj (List.range n)
  | 0, _ => .nil
  | n + 1, h => by
    rw [List.range_succ]
    exact .snoc (range n fun i hi => h i (Nat.lt_succ_of_lt hi)) List.not_mem_range_self fun d hd =>
      List.mem_range.2 (h n (Nat.lt_succ_self n) d hd)

/-! ### running the orderer in the kernel
`push` / `pushAll` are compiled by well-founded recursion and do not reduce; `pushS` recurses on the budget
alone, so `decide +kernel` can evaluate `order` on concrete graphs after `order_eq`. -/

def pushAllWith (push : Nat → List Nat → List Nat → Res) : List Nat → List Nat → List Nat → Res
  | [], stack, _ => .ok stack
  | y :: ys, stack, pending =>
    match push y stack pending with
    | .ok st => pushAllWith push ys st pending
    | .cycle => .cycle
    | .fuel => .fuel

def pushS : Nat → Nat → List Nat → List Nat → Res
  | 0, _, _, _ => .fuel
  | f + 1, x, stack, pending =>
    if x ∈ stack then .ok stack
    else if x ∈ pending then .cycle
    else match pushAllWith (pushS f) (adj x) stack (x :: pending) with
      | .ok st => .ok (st ++ [x])
      | .cycle => .cycle
      | .fuel => .fuel

theorem pushAll_eq_with (f : Nat) (hp : ∀ x s P, push adj f x s P = pushS adj f x s P) :
    ∀ xs s P, pushAll adj f xs s P = pushAllWith (pushS adj f) xs s P := by
  intro xs
  induction xs with
  | nil => intro s P; rw [pushAll, pushAllWith]
  | cons y ys ih => intro s P; rw [pushAll, pushAllWith, hp]; cases pushS adj f y s P <;> simp [ih]

theorem push_eq : ∀ f x s P, push adj f x s P = pushS adj f x s P := by
  intro f
  induction f with
  | zero => intro x s P; rw [push, pushS]
  | succ f ih => intro x s P; rw [push, pushS, pushAll_eq_with adj f ih]; rfl

theorem order_eq (f : Nat) (items : List Nat) : order adj f items = pushAllWith (pushS adj f) items [] [] :=
  pushAll_eq_with adj f (push_eq adj f) items [] []

end L21.Dep
