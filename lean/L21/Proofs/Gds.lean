import L21.Model.Gds
import L21.Spec.GdsSpec
import L21.Proofs.ListFacts
/-
The record layer of the GDSII stack (C01, C02, C03, C10).  What is needed of the regenerated tables is swept once each;
one record written and one record read are each inverted once.  `decodable bs` is what a byte string holds; through it
the reader loses its budget (`dec_eq`).
-/
namespace L21.Gds
open L21

theorem Out.ok_or_err {α : Type} : ∀ (o : Out α), (∃ a, o = .ok a) ∨ o = .err
  | .ok a => .inl ⟨a, rfl⟩
  | .err => .inr rfl

theorem beBytes_length (w : Nat) (v : Int) : (beBytes w v).length = w := by
  simp [beBytes]

theorem flatMap_beBytes_length (w : Nat) (l : List Int) : (l.flatMap (beBytes w)).length = w * l.length :=
  length_flatMap_const fun v _ => beBytes_length w v

theorem natBytes8_length (v : Nat) : (natBytes8 v).length = 8 := by simp [natBytes8]

theorem encReals_cons_some {x : Nat} {t : List Nat} {bs : Bytes} : encReals (x :: t) = some bs ↔
    ∃ g r, GdsFloat.encodeBits x = some g ∧ encReals t = some r ∧ bs = natBytes8 g ++ r := by
  rw [encReals]
  cases GdsFloat.encodeBits x <;> cases encReals t <;> simp [eq_comm]

theorem encReals_length : ∀ (l : List Nat) (bs : Bytes), encReals l = some bs → bs.length = 8 * l.length
  | [], _, h => by cases h; rfl
  | _ :: t, _, h => by
    obtain ⟨g, r, _, hr, rfl⟩ := encReals_cons_some.1 h
    rw [List.length_append, natBytes8_length, encReals_length t r hr, List.length_cons]; omega

theorem payloadBytes_str_eq_some_iff {s body : Bytes} : payloadBytes .str (.str s) = some body ↔
    (s.length % 2 = 1 ∧ body = s ++ [0]) ∨ (s.length % 2 = 0 ∧ s.getLast? ≠ some 0 ∧ body = s) := by
  rw [payloadBytes]
  by_cases h1 : s.length % 2 = 1
  · simp [h1, eq_comm]
  · have h0 : s.length % 2 = 0 := by omega
    by_cases hl : s.getLast? = some 0 <;> simp [h0, hl, eq_comm]

theorem readStr_ok_iff {body s : Bytes} : readStr body = .ok s ↔
    validUtf8 s = true ∧ (body = s ++ [0] ∨ (body = s ∧ s.getLast? ≠ some 0)) := by
  constructor
  · intro h
    unfold readStr at h
    by_cases hl : body.getLast? = some 0
    · obtain ⟨pre, rfl⟩ := List.getLast?_eq_some_iff.1 hl
      simp only [hl, if_true, List.dropLast_concat] at h
      split at h <;> cases h
      exact ⟨‹_›, .inl rfl⟩
    · simp only [hl, if_false] at h
      split at h <;> cases h
      exact ⟨‹_›, .inr ⟨rfl, hl⟩⟩
  · rintro ⟨hv, rfl | ⟨rfl, hl⟩⟩
    · simp [readStr, hv]
    · simp [readStr, hv, hl]

theorem payloadBytes_length {dt : Nat} {ls : LenSpec} {pk : PK} {pl : Payload} {body : Bytes}
    (hl : Spec.layoutOk dt ls pk = true) (hf : payloadFits pk pl = true)
    (hb : payloadBytes pk pl = some body) : body.length = payloadLen ls pl ∧ payloadLen ls pl % 2 = 0 := by
  revert hl hf hb
  -- the cases are the arms of `payloadFits`; 8 is the mismatch
  fun_cases payloadFits pk pl <;> intro hl hf hb
  case case8 => cases hf
  all_goals simp only [Spec.layoutOk, Bool.and_eq_true, beq_iff_eq] at hl hf
  all_goals rw [hl.2, payloadLen]
  case case1 | case2 => cases hb; exact ⟨rfl, rfl⟩
  case case3 n l | case4 n l => cases hb; rw [flatMap_beBytes_length, hf]; exact ⟨rfl, by omega⟩
  case case5 n l => rw [encReals_length l body hb, hf]; exact ⟨rfl, by omega⟩
  case case6 s =>
    rcases payloadBytes_str_eq_some_iff.1 hb with ⟨h1, rfl⟩ | ⟨h0, _, rfl⟩
    · rw [List.length_append, List.length_singleton]; omega
    · omega
  case case7 l => cases hb; exact ⟨flatMap_beBytes_length 4 l, by omega⟩

/-- obligation of C02: each write row's layout is the one its data type and size rule imply -/
theorem c02_table_layouts : Gen.gdsWriteTable.all (fun r => Spec.layoutOk r.2.1 r.2.2.1 r.2.2.2) = true := by
  decide

theorem lookupWrite_mem {rt dt : Nat} {ls : LenSpec} {pk : PK} (h : lookupWrite rt = some (dt, ls, pk)) :
    (rt, dt, ls, pk) ∈ Gen.gdsWriteTable := by
  unfold lookupWrite at h
  cases hf : Gen.gdsWriteTable.find? (fun r => r.1 == rt) with
  | none => simp [hf] at h
  | some row =>
    have hm := List.mem_of_find?_eq_some hf
    have hp := List.find?_some hf
    obtain ⟨a, b⟩ := row
    simp only [hf, Option.map_some, Option.some.injEq, beq_iff_eq] at h hp
    subst h; subst hp; exact hm

theorem lookupWrite_layoutOk {rt dt : Nat} {ls : LenSpec} {pk : PK} (h : lookupWrite rt = some (dt, ls, pk)) :
    Spec.layoutOk dt ls pk = true :=
  List.all_eq_true.1 c02_table_layouts _ (lookupWrite_mem h)

/-- what can be written can be read -/
def writerRowAccepted (w : Nat × Nat × LenSpec × PK) : Bool :=
  Gen.gdsReadTable.any (fun r => r.1 == w.1 && r.2.1 == w.2.1 && r.2.2.2 == w.2.2.2 &&
    (match w.2.2.1, r.2.2.1 with
     | .fixed n, some k => n == k
     | .strlen, none => true
     | .xy, none => true
     | _, _ => false))

/-- the inner `match` of `writerRowAccepted` -/
def lenCompat (ls : LenSpec) (lenreq : Option Nat) : Bool :=
  match ls, lenreq with
  | .fixed n, some k => n == k
  | .strlen, none => true
  | .xy, none => true
  | _, _ => false

theorem lenCompat_matches {ls : LenSpec} {row : Nat × Nat × Option Nat × PK} (h : lenCompat ls row.2.2.1 = true) (pl : Payload) :
    readRowMatches row.1 row.2.1 (payloadLen ls pl) row = true := by
  obtain ⟨rt, dt, lenreq, pk⟩ := row
  simp only [readRowMatches, beq_self_eq_true, Bool.true_and]
  match ls, lenreq, h with
  | .fixed n, some k, h => exact beq_iff_eq.2 (beq_iff_eq.1 h).symm
  | .strlen, none, _ | .xy, none, _ => rfl

/-- what can be read can be written -/
def readRowGood (row : Nat × Nat × Option Nat × PK) : Bool :=
  match lookupWrite row.1 with
  | some (_, ls, pk) => pk == row.2.2.2 && lenCompat ls row.2.2.1
  | none => false

/-- one kernel sweep per direction; the first is an obligation of C01 -/
theorem c01_reader_accepts_writer_rows : Gen.gdsWriteTable.all writerRowAccepted = true := by decide +kernel
theorem read_rows_writable : Gen.gdsReadTable.all readRowGood = true := by decide +kernel

/-- obligation of C01: no record type has two rows in the read table, so the first row matching a written (rt, dt) is the
    only one of its record type -/
theorem c01_read_table_unambiguous :
    Gen.gdsReadTable.all (fun r => (Gen.gdsReadTable.filter (fun s => s.1 == r.1)).length == 1) = true := by decide +kernel

theorem readRow_unique {a b : Nat × Nat × Option Nat × PK} (ha : a ∈ Gen.gdsReadTable) (hb : b ∈ Gen.gdsReadTable)
    (h : a.1 = b.1) : a = b := by
  obtain ⟨x, hx⟩ := List.length_eq_one_iff.1 (beq_iff_eq.1 (List.all_eq_true.1 c01_read_table_unambiguous a ha))
  have ha' : a ∈ Gen.gdsReadTable.filter (fun s => s.1 == a.1) := List.mem_filter.2 ⟨ha, beq_self_eq_true _⟩
  have hb' : b ∈ Gen.gdsReadTable.filter (fun s => s.1 == a.1) := List.mem_filter.2 ⟨hb, beq_iff_eq.2 h.symm⟩
  rw [hx, List.mem_singleton] at ha' hb'
  rw [ha', hb']

/-- the reader's three header checks pass on every write row -/
theorem write_rows_known : Gen.gdsWriteTable.all (fun w => !(Gen.gdsRecTypes.find? (fun r => r.2 == w.1)).isNone &&
    !Gen.gdsInvalid.contains w.1 && !(Gen.gdsDataTypes.find? (fun r => r.2 == w.2.1)).isNone) = true := by decide +kernel

theorem ok_of_guard {α : Type} {c : Prop} [Decidable c] {x : Out α} {v : α} (h : (if c then .err else x) = .ok v) :
    ¬ c ∧ x = .ok v := by
  by_cases hc : c
  · rw [if_pos hc] at h; cases h
  · rw [if_neg hc] at h; exact ⟨hc, h⟩

theorem encRecord_ok_iff {r : Rec} {bs : Bytes} : encRecord r = .ok bs ↔ ∃ dt ls pk body,
    lookupWrite r.rt = some (dt, ls, pk) ∧ payloadFits pk r.pl = true ∧ payloadLen ls r.pl + 4 ≤ 65535 ∧
    payloadBytes pk r.pl = some body ∧
    bs = [(payloadLen ls r.pl + 4) / 256, (payloadLen ls r.pl + 4) % 256, r.rt, dt] ++ body := by
  unfold encRecord
  constructor
  · intro h
    split at h
    · cases h
    · rename_i dt ls pk hl
      obtain ⟨hf, h⟩ := ok_of_guard h
      obtain ⟨hlen, h⟩ := ok_of_guard h
      split at h
      · cases h
      · rename_i body hb
        cases h
        exact ⟨dt, ls, pk, body, hl, by simpa using hf, by omega, hb, rfl⟩
  · rintro ⟨dt, ls, pk, body, hl, hf, hlen, hb, rfl⟩
    simp only [hl, hf, hb, Bool.not_true, Bool.false_eq_true, if_false]
    rw [if_neg (by omega)]

theorem encRecords_cons_ok {r : Rec} {rest : List Rec} {bs : Bytes} : encRecords (r :: rest) = .ok bs ↔
    ∃ a b, encRecord r = .ok a ∧ encRecords rest = .ok b ∧ bs = a ++ b := by
  rw [encRecords]
  cases encRecord r <;> cases encRecords rest <;> simp [eq_comm]

theorem encRecords_ok : ∀ (rs : List Rec), (∀ r ∈ rs, ∃ out, encRecord r = .ok out) → ∃ bs, encRecords rs = .ok bs
  | [], _ => ⟨[], rfl⟩
  | r :: rest, h => by
    obtain ⟨a, ha⟩ := h r (by simp)
    obtain ⟨b, hb⟩ := encRecords_ok rest (fun x hx => h x (by simp [hx]))
    exact ⟨a ++ b, encRecords_cons_ok.2 ⟨a, b, ha, hb, rfl⟩⟩

theorem encRecords_append {a b : List Rec} {bs : Bytes} (h : encRecords (a ++ b) = .ok bs) :
    ∃ x y, encRecords a = .ok x ∧ encRecords b = .ok y ∧ bs = x ++ y := by
  induction a generalizing bs with
  | nil => exact ⟨[], bs, rfl, h, rfl⟩
  | cons r rest ih =>
    obtain ⟨u, v, hu, hv, rfl⟩ := encRecords_cons_ok.1 h
    obtain ⟨x, y, hx, hy, rfl⟩ := ih hv
    exact ⟨u ++ x, y, encRecords_cons_ok.2 ⟨u, x, hu, hx, rfl⟩, hy, (List.append_assoc ..).symm⟩

theorem readRecord_ok_iff {bs rest : Bytes} {r : Rec} : readRecord bs = .ok (r, rest) ↔
    ∃ (l0 l1 dt : Nat) (body : Bytes) (row : Nat × Nat × Option Nat × PK),
      bs = l0 :: l1 :: r.rt :: dt :: (body ++ rest) ∧ body.length + 4 = l0 * 256 + l1 ∧ (l0 * 256 + l1) % 2 = 0 ∧
      (Gen.gdsRecTypes.find? (fun x => x.2 == r.rt)).isNone = false ∧ Gen.gdsInvalid.contains r.rt = false ∧
      (Gen.gdsDataTypes.find? (fun x => x.2 == dt)).isNone = false ∧
      Gen.gdsReadTable.find? (readRowMatches r.rt dt body.length) = some row ∧ decodePayload row.2.2.2 body = .ok r.pl := by
  constructor
  · intro h
    match bs, h with
    | [], h | [_], h => cases h
    | [_, _], h | [_, _, _], h => simp [readRecord] at h
    | l0 :: l1 :: rt :: dt :: rest3, h =>
      simp only [readRecord] at h
      obtain ⟨h4, h⟩ := ok_of_guard h
      obtain ⟨hev, h⟩ := ok_of_guard h
      obtain ⟨h1, h⟩ := ok_of_guard h
      obtain ⟨h2, h⟩ := ok_of_guard h
      obtain ⟨h3, h⟩ := ok_of_guard h
      split at h; · cases h
      rename_i row hrow
      obtain ⟨hlen, h⟩ := ok_of_guard h
      split at h
      · rename_i pl hd
        cases h
        refine ⟨l0, l1, dt, rest3.take (l0 * 256 + l1 - 4), row, by rw [List.take_append_drop], ?_, by omega,
          by simpa using h1, by simpa using h2, by simpa using h3, ?_, hd⟩
        · rw [List.length_take]; omega
        · rw [List.length_take, Nat.min_eq_left (by omega)]; exact hrow
      · cases h
  · rintro ⟨l0, l1, dt, body, row, rfl, hlen, hev, h1, h2, h3, hrow, hd⟩
    have e : l0 * 256 + l1 - 4 = body.length := by omega
    simp only [readRecord, e, h1, h2, h3, hrow, hd, List.take_left', List.drop_left', List.length_append]
    simp only [Bool.false_eq_true, if_false]
    rw [if_neg (by omega), if_neg (by omega), if_neg (by omega)]

/-- obligation of C10: a decoded record consumes ≥ 4 bytes, so n bytes hold ≤ n/4 records -/
theorem c10_progress (bs rest : Bytes) (r : Rec) (h : readRecord bs = .ok (r, rest)) :
    rest.length + 4 ≤ bs.length := by
  obtain ⟨_, _, _, _, _, rfl, _⟩ := readRecord_ok_iff.1 h
  simp only [List.length_cons, List.length_append]; omega

/-- what a byte string holds: its records up to the first ENDLIB or the first fault -/
def decodable (bs : Bytes) : List Rec :=
  match _h : readRecord bs with
  | .err => []
  | .ok (r, rest) => if r.rt = rEndLib then [r] else r :: decodable rest
termination_by bs.length
decreasing_by have := c10_progress _ _ _ _h; omega

/-- the list ends with ENDLIB (no fault before the end of the library) -/
def complete (rs : List Rec) : Bool := match rs.getLast? with | some r => r.rt == rEndLib | none => false

theorem complete_cons (x : Rec) {rs : List Rec} (h : rs ≠ []) : complete (x :: rs) = complete rs := by
  unfold complete; rw [List.getLast?_cons_of_ne_nil h]

theorem complete_concat (l : List Rec) (x : Rec) : complete (l ++ [x]) = (x.rt == rEndLib) := by simp [complete]

theorem complete_single (x : Rec) : complete [x] = (x.rt == rEndLib) := complete_concat [] x

theorem complete_split {rs : List Rec} (h : complete rs = true) : ∃ pre pl, rs = pre ++ [⟨rEndLib, pl⟩] := by
  unfold complete at h
  split at h
  · rename_i r hr
    obtain ⟨rt, pl⟩ := r
    simp only [beq_iff_eq] at h; subst h
    obtain ⟨pre, e⟩ := List.getLast?_eq_some_iff.1 hr
    exact ⟨pre, pl, e⟩
  · cases h

theorem decodable_length (bs : Bytes) : (decodable bs).length * 4 ≤ bs.length := by
  fun_induction decodable bs with
  | case1 bs _ => simp
  | case2 bs r rest h he => have := c10_progress _ _ _ h; simp; omega
  | case3 bs r rest h he ih => have := c10_progress _ _ _ h; simp; omega

theorem decodable_eq (bs : Bytes) : decodable bs =
    match readRecord bs with
    | .err => []
    | .ok (r, rest) => if r.rt = rEndLib then [r] else r :: decodable rest := by
  rw [decodable]
  split
  · rename_i h; rw [h]
  · rename_i r rest h; rw [h]

theorem tokenize_eq : ∀ (fuel : Nat) (bs : Bytes), bs.length / 4 + 1 ≤ fuel →
    tokenize fuel bs = if complete (decodable bs) = true then .ok (decodable bs) else .err := by
  intro fuel
  induction fuel with
  | zero => intro bs h; omega
  | succ f ih =>
    intro bs hf
    rw [decodable_eq, tokenize]
    cases hr : readRecord bs with
    | err => rfl
    | ok p =>
      obtain ⟨r, rest⟩ := p
      simp only
      by_cases he : r.rt = rEndLib
      · simp [he, complete_single]
      · have hp := c10_progress _ _ _ hr
        simp only [he, if_false]
        rw [ih rest (by omega)]
        by_cases hne : decodable rest = []
        · simp [hne, complete, he]
        · rw [complete_cons _ hne]; cases complete (decodable rest) <;> rfl

/-- `from_bytes` without the budget -/
theorem dec_eq (bs : Bytes) : dec bs = if complete (decodable bs) = true then parseLib (decodable bs) else .err := by
  rw [dec, tokenize_eq _ bs (Nat.le_refl _)]; cases complete (decodable bs) <;> rfl

theorem dec_ok_iff {bs : Bytes} {l : Library} :
    dec bs = .ok l ↔ complete (decodable bs) = true ∧ parseLib (decodable bs) = .ok l := by
  rw [dec_eq]
  by_cases hc : complete (decodable bs) = true
  · rw [if_pos hc]; exact ⟨fun h => ⟨hc, h⟩, fun h => h.2⟩
  · rw [if_neg hc]; exact ⟨nofun, fun h => absurd h.1 hc⟩

/-- obligation of C03 -/
theorem readRecord_append (bs rest t : Bytes) (r : Rec) (h : readRecord bs = .ok (r, rest)) :
    readRecord (bs ++ t) = .ok (r, rest ++ t) := by
  obtain ⟨l0, l1, dt, body, row, rfl, hrest⟩ := readRecord_ok_iff.1 h
  exact readRecord_ok_iff.2 ⟨l0, l1, dt, body, row, by simp, hrest⟩

theorem decodable_append (bs t : Bytes) (h : complete (decodable bs) = true) : decodable (bs ++ t) = decodable bs := by
  fun_induction decodable bs with
  | case1 bs _ => cases h
  | case2 bs r rest hr he => rw [decodable_eq, readRecord_append bs rest t r hr]; simp [he]
  | case3 bs r rest hr he ih =>
    have hne : decodable rest ≠ [] := fun e => by rw [e, complete_single] at h; exact he (by simpa using h)
    rw [complete_cons _ hne] at h
    rw [decodable_eq, readRecord_append bs rest t r hr]; simp [he, ih h]

end L21.Gds
