import Lean.Meta.Tactic.Simp.RegisterCommand
/-- The simp set `gdsrec`: the record numbers `rHeader` … `rEndExtn` as numerals; the writer names its record types, the
    reader and the grammar match on numerals. -/
register_simp_attr gdsrec
