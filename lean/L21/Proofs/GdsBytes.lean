import L21.Proofs.Gds
import L21.Proofs.GdsFloat
import L21.Proofs.GdsTree
/-
Byte level of the GDSII stack, both directions side by side, level by level: integers, reals, strings, one payload, one
record, the token stream.  Forward: what the writer's bytes are read back to, up to the library (`dec_enc`).  Backward:
what is read from bytes below 256 is a record the writer accepts (`Good`, defined first), up to `decodable_good`.
-/
namespace L21.Gds
open L21 L21.GdsFloat

def plOkNR (pk : PK) : Payload → Bool
  | .reals _ => true
  | pl => plOkB pk pl
/-- `recOkB` without the range of the reals: what the reader guarantees of a record -/
def recOkNR (r : Rec) : Bool :=
  match lookupWrite r.rt with
  | some (_, _, pk) => plOkNR pk r.pl
  | none => true

/-- the real-number part of `recOkB`: finite doubles inside the GDSII range (or zero) -/
def realsOkB (r : Rec) : Bool :=
  match r.pl with
  | .reals l => l.all fun x => decide (x < 2 ^ 64) && inRangeB x
  | _ => true

theorem recOkB_of_parts (r : Rec) (h1 : recOkNR r = true) (h2 : realsOkB r = true) : recOkB r = true := by
  obtain ⟨rt, pl⟩ := r
  unfold recOkNR at h1
  unfold recOkB
  cases hl : lookupWrite rt with
  | none => rfl
  | some w =>
    rw [hl] at h1
    cases pl with
    | reals l => exact h2
    | _ => exact h1

/-- a record that the writer accepts and whose integer / flag / string fields are in range -/
def Good (r : Rec) : Prop := recOkNR r = true ∧ ∃ out, encRecord r = .ok out

theorem good_of_row {rt dt : Nat} {ls : LenSpec} {pk : PK} {pl : Payload} {body : Bytes} (hw : lookupWrite rt = some (dt, ls, pk))
    (hnr : plOkNR pk pl = true) (hf : payloadFits pk pl = true) (hlen : payloadLen ls pl + 4 ≤ 65535)
    (hb : payloadBytes pk pl = some body) : Good ⟨rt, pl⟩ :=
  ⟨by simp only [recOkNR, hw]; exact hnr, _, encRecord_ok_iff.2 ⟨dt, ls, pk, body, hw, hf, hlen, hb, rfl⟩⟩

/-- the `w` low base-256 digits of `u`, most significant first: what `beBytes` and `natBytes8` both emit -/
def digits (w u : Nat) : Bytes := (List.range w).reverse.map (fun i => u / 256 ^ i % 256)

theorem beBytes_eq (w : Nat) (v : Int) : beBytes w v = digits w (v % 256 ^ w).toNat := rfl
theorem natBytes8_eq (v : Nat) : natBytes8 v = digits 8 v := rfl

theorem digits_succ (w u : Nat) : digits (w + 1) u = u / 256 ^ w % 256 :: digits w u := by
  simp [digits, List.range_succ]

theorem digits_length (w u : Nat) : (digits w u).length = w := by simp [digits]

theorem beNat_cons (b : Nat) (bs : Bytes) : beNat (b :: bs) = b * 256 ^ bs.length + beNat bs := by
  have gen : ∀ (l : Bytes) (acc : Nat), l.foldl (fun a b => a * 256 + b) acc = acc * 256 ^ l.length + beNat l := by
    intro l
    induction l with
    | nil => intro acc; simp [beNat]
    | cons x r ih =>
      intro acc
      simp only [beNat, List.foldl_cons, List.length_cons] at ih ⊢
      rw [ih (acc * 256 + x), ih (0 * 256 + x), Nat.pow_succ]
      simp only [Nat.zero_mul, Nat.zero_add, Nat.add_mul, Nat.mul_assoc, Nat.mul_comm 256, Nat.add_assoc]
  simpa [beNat] using gen bs b

theorem beNat_digits (w u : Nat) : beNat (digits w u) = u % 256 ^ w := by
  induction w with
  | zero => simp [digits, beNat, Nat.mod_one]
  | succ w ih => rw [digits_succ, beNat_cons, digits_length, ih, Nat.mod_pow_succ, Nat.add_comm, Nat.mul_comm]

theorem beInt_beBytes (w m : Nat) (v : Int) (hm : 256 ^ w = 2 * m) (h1 : -(m : Int) ≤ v) (h2 : v < (m : Int)) :
    beInt w (beBytes w v) = v := by
  have hcast : ((256 : Int) ^ w) = ((2 * m : Nat) : Int) := by rw [← hm]; simp
  unfold beInt
  simp only [beBytes_eq, beNat_digits, hcast, hm]
  have hmod : (v % ((2 * m : Nat) : Int)).toNat % (2 * m) = (v % ((2 * m : Nat) : Int)).toNat := by
    apply Nat.mod_eq_of_lt
    have := Int.emod_lt_of_pos v (show (0 : Int) < ((2 * m : Nat) : Int) by omega)
    omega
  rw [hmod]
  by_cases hv : 0 ≤ v
  · rw [Int.emod_eq_of_lt hv (by omega)]
    have : (v.toNat : Int) = v := Int.toNat_of_nonneg hv
    split <;> omega
  · have e : v % ((2 * m : Nat) : Int) = v + ((2 * m : Nat) : Int) := by
      rw [← Int.add_emod_right, Int.emod_eq_of_lt (by omega) (by omega)]
    rw [e]
    have : ((v + ((2 * m : Nat) : Int)).toNat : Int) = v + ((2 * m : Nat) : Int) := Int.toNat_of_nonneg (by omega)
    split <;> omega

theorem splitInts_flatMap (w m : Nat) (hm : 256 ^ w = 2 * m) : ∀ (l : List Int), (∀ v ∈ l, -(m : Int) ≤ v ∧ v < (m : Int)) →
    splitInts w l.length (l.flatMap (beBytes w)) = l
  | [], _ => rfl
  | v :: r, h => by
    simp only [List.length_cons, splitInts, List.flatMap_cons]
    rw [List.take_left' (beBytes_length w v), List.drop_left' (beBytes_length w v),
      beInt_beBytes w m v hm (h v (by simp)).1 (h v (by simp)).2, splitInts_flatMap w m hm r (fun x hx => h x (by simp [hx]))]

theorem bytesOk_cons {b : Nat} {bs : Bytes} : BytesOk (b :: bs) ↔ b < 256 ∧ BytesOk bs := List.forall_mem_cons
theorem bytesOk_append {a b : Bytes} : BytesOk (a ++ b) ↔ BytesOk a ∧ BytesOk b := List.forall_mem_append

theorem beNat_lt : ∀ (bs : Bytes), BytesOk bs → beNat bs < 256 ^ bs.length
  | [], _ => by decide
  | b :: r, h => by
    obtain ⟨hb, hr⟩ := bytesOk_cons.1 h
    have ih := beNat_lt r hr
    rw [beNat_cons, List.length_cons, Nat.pow_succ]
    calc b * 256 ^ r.length + beNat r < (b + 1) * 256 ^ r.length := by rw [Nat.add_mul, Nat.one_mul]; omega
      _ ≤ 256 * 256 ^ r.length := Nat.mul_le_mul_right _ hb
      _ = 256 ^ r.length * 256 := Nat.mul_comm _ _

theorem beInt_range (w m : Nat) (bs : Bytes) (hm : 256 ^ w = 2 * m) (h : BytesOk bs) (hl : bs.length ≤ w) :
    -(m : Int) ≤ beInt w bs ∧ beInt w bs < (m : Int) := by
  have h1 := beNat_lt bs h
  have h2 : 256 ^ bs.length ≤ 256 ^ w := Nat.pow_le_pow_right (by decide) hl
  unfold beInt
  simp only [hm, Nat.mul_div_cancel_left m (by decide : 0 < 2)]
  split <;> omega

theorem splitInts_length (w : Nat) : ∀ (n : Nat) (bs : Bytes), (splitInts w n bs).length = n := by
  intro n; induction n with
  | zero => intro bs; rfl
  | succ n ih => intro bs; simp [splitInts, ih]

theorem splitInts_range (w m : Nat) (hm : 256 ^ w = 2 * m) : ∀ (n : Nat) (bs : Bytes), BytesOk bs →
    ∀ v ∈ splitInts w n bs, -(m : Int) ≤ v ∧ v < (m : Int) := by
  intro n; induction n with
  | zero => intro bs _ v hv; simp [splitInts] at hv
  | succ n ih =>
    intro bs h v hv
    simp only [splitInts, List.mem_cons] at hv
    rcases hv with rfl | hv
    · exact beInt_range w m _ hm (fun b hb => h b (List.mem_of_mem_take hb)) (by simp; omega)
    · exact ih _ (fun b hb => h b (List.mem_of_mem_drop hb)) v hv

theorem beNat_natBytes8 (g : Nat) (hg : g < 2 ^ 64) : beNat (natBytes8 g) = g := by
  rw [natBytes8_eq, beNat_digits]; exact Nat.mod_eq_of_lt hg

theorem canonZero_encodable (x g : Nat) (h : encodeBits x = some g) : (encodeBits (canonZero x)).isSome = true := by
  unfold canonZero
  split
  · rw [encodeBits_zero rfl rfl]; rfl
  · simp [h]

theorem splitReals_encReals : ∀ (l : List Nat) (bs : Bytes), (∀ x ∈ l, realOk x) → encReals l = some bs →
    splitReals l.length bs = l.map canonZero
  | [], _, _, _ => rfl
  | x :: r, _, hok, h => by
    obtain ⟨g, rb, hg, hr, rfl⟩ := encReals_cons_some.1 h
    have hx := hok x (by simp)
    simp only [List.length_cons, splitReals, List.map_cons]
    rw [List.take_left' (natBytes8_length g), List.drop_left' (natBytes8_length g), beNat_natBytes8 g (encodeBits_lt x g hg),
      c15_decode_encode x g hx.1 hx.2 hg, splitReals_encReals r rb (fun y hy => hok y (by simp [hy])) hr]

theorem encReals_all_encodable : ∀ (l : List Nat) (bs : Bytes), encReals l = some bs →
    (l.map canonZero).all (fun x => (encodeBits x).isSome) = true
  | [], _, _ => rfl
  | x :: r, _, h => by
    obtain ⟨g, rb, hg, hr, rfl⟩ := encReals_cons_some.1 h
    simp only [List.map_cons, List.all_cons, Bool.and_eq_true]
    exact ⟨canonZero_encodable x g hg, encReals_all_encodable r rb hr⟩

theorem splitReals_length : ∀ (n : Nat) (bs : Bytes), (splitReals n bs).length = n := by
  intro n; induction n with
  | zero => intro bs; rfl
  | succ n ih => intro bs; simp [splitReals, ih]

theorem encReals_some : ∀ (l : List Nat), l.all (fun x => (encodeBits x).isSome) = true → ∃ bs, encReals l = some bs
  | [], _ => ⟨[], rfl⟩
  | x :: r, h => by
    simp only [List.all_cons, Bool.and_eq_true] at h
    obtain ⟨g, hg⟩ := Option.isSome_iff_exists.1 h.1
    obtain ⟨bs, hb⟩ := encReals_some r h.2
    exact ⟨_, encReals_cons_some.2 ⟨g, bs, hg, hb, rfl⟩⟩

/-- string payload round trip (obligation of C01): pad, then strip, gives the string back -/
theorem c01_string_roundtrip (s body : Bytes) (hu : validUtf8 s = true)
    (h : payloadBytes .str (.str s) = some body) : readStr body = .ok s := by
  rcases payloadBytes_str_eq_some_iff.1 h with ⟨_, rfl⟩ | ⟨_, hl, rfl⟩
  · exact readStr_ok_iff.2 ⟨hu, .inl rfl⟩
  · exact readStr_ok_iff.2 ⟨hu, .inr ⟨rfl, hl⟩⟩

theorem payloadBytes_readStr {body s : Bytes} (h : readStr body = .ok s) (heven : body.length % 2 = 0) :
    validUtf8 s = true ∧ payloadBytes .str (.str s) = some body := by
  obtain ⟨hv, rfl | ⟨rfl, hl⟩⟩ := readStr_ok_iff.1 h
  · rw [List.length_append, List.length_singleton] at heven
    exact ⟨hv, payloadBytes_str_eq_some_iff.2 (.inl ⟨by omega, rfl⟩)⟩
  · exact ⟨hv, payloadBytes_str_eq_some_iff.2 (.inr ⟨heven, hl, rfl⟩)⟩

theorem decode_payload (pk : PK) (pl : Payload) (body : Bytes) (hf : payloadFits pk pl = true)
    (hb : payloadBytes pk pl = some body) (hok : plOk pk pl) : decodePayload pk body = .ok (canonPl pl) := by
  revert hf hb hok
  fun_cases payloadFits pk pl <;> intro hf hb hok
  case case8 => cases hf
  case case1 => rfl
  case case2 a b => cases hb; rfl
  case case3 n l =>
    cases hb; cases beq_iff_eq.1 hf
    exact congrArg (fun l => Out.ok (Payload.ints l)) (splitInts_flatMap 2 32768 (by decide) l hok)
  case case4 n l =>
    cases hb; cases beq_iff_eq.1 hf
    exact congrArg (fun l => Out.ok (Payload.ints l)) (splitInts_flatMap 4 2147483648 (by decide) l hok)
  case case5 n l =>
    cases beq_iff_eq.1 hf
    simp only [decodePayload, canonPl]
    rw [splitReals_encReals l body hok hb, if_pos (encReals_all_encodable l body hb)]
  case case6 s => simp only [decodePayload, canonPl, c01_string_roundtrip s body hok hb]
  case case7 l =>
    cases hb
    simp only [decodePayload, canonPl]
    rw [flatMap_beBytes_length, Nat.mul_div_cancel_left _ (by decide : 0 < 4), splitInts_flatMap 4 2147483648 (by decide) l hok]

theorem decodePayload_len {dt : Nat} {ls : LenSpec} {lenreq : Option Nat} {pk : PK} {body : Bytes} {pl : Payload}
    (hls : lenCompat ls lenreq = true) (hlay : Spec.layoutOk dt ls pk = true) (hlen : ∀ k, lenreq = some k → k = body.length)
    (heven : body.length % 2 = 0) (hd : decodePayload pk body = .ok pl) : payloadLen ls pl ≤ body.length := by
  match ls, lenreq, hls with
  | .fixed n, some k, hls => cases beq_iff_eq.1 hls; exact Nat.le_of_eq (hlen n rfl)
  | .strlen, none, _ =>
    -- the size rules STRLEN and XY belong to one layout each
    obtain rfl : pk = .str := by cases pk <;> simp [Spec.layoutOk] at hlay <;> rfl
    simp only [decodePayload] at hd
    split at hd
    · rename_i s hs; cases hd; exact Nat.le_of_eq (payloadBytes_length hlay rfl (payloadBytes_readStr hs heven).2).1.symm
    · cases hd
  | .xy, none, _ =>
    obtain rfl : pk = .i32vec := by cases pk <;> simp [Spec.layoutOk] at hlay <;> rfl
    cases hd
    simp only [payloadLen, splitInts_length]; omega

theorem getD_lt {body : Bytes} (hb : BytesOk body) (i : Nat) : body.getD i 0 < 256 := by
  rw [List.getD_eq_getElem?_getD]
  cases h : body[i]? with
  | none => decide
  | some a => exact hb a (List.mem_of_getElem? h)

theorem decodePayload_writable {pk : PK} {body : Bytes} {pl : Payload} (hb : BytesOk body) (heven : body.length % 2 = 0)
    (hd : decodePayload pk body = .ok pl) :
    plOkNR pk pl = true ∧ payloadFits pk pl = true ∧ ∃ out, payloadBytes pk pl = some out := by
  have ints : ∀ (w m n : Nat), 256 ^ w = 2 * m →
      (splitInts w n body).all (fun v => decide (-(m : Int) ≤ v) && decide (v < (m : Int))) = true :=
    fun w m n hm => List.all_eq_true.2 fun v hv => by simpa using splitInts_range w m hm n body hb v hv
  cases pk with
  | none => cases hd; exact ⟨rfl, rfl, _, rfl⟩
  | bits =>
    cases hd
    exact ⟨by simp only [plOkNR, plOkB, Bool.and_eq_true, decide_eq_true_eq]; exact ⟨getD_lt hb 0, getD_lt hb 1⟩, rfl, _, rfl⟩
  | i16 n => cases hd; exact ⟨ints 2 32768 n (by decide), by simp [payloadFits, splitInts_length], _, rfl⟩
  | i32 n => cases hd; exact ⟨ints 4 2147483648 n (by decide), by simp [payloadFits, splitInts_length], _, rfl⟩
  | i32vec => cases hd; exact ⟨ints 4 2147483648 _ (by decide), rfl, _, rfl⟩
  | f64 n =>
    simp only [decodePayload] at hd
    split at hd
    · rename_i hall
      cases hd
      exact ⟨rfl, by simp [payloadFits, splitReals_length], encReals_some _ hall⟩
    · cases hd
  | str =>
    simp only [decodePayload] at hd
    split at hd
    · rename_i s hs
      cases hd
      obtain ⟨h1, h2⟩ := payloadBytes_readStr hs heven
      exact ⟨h1, rfl, _, h2⟩
    · cases hd

/-- obligation of C01 -/
theorem readRecord_encRecord (r : Rec) (bs t : Bytes) (h : encRecord r = .ok bs) (hok : recOk r) :
    readRecord (bs ++ t) = .ok (canonRec r, t) := by
  obtain ⟨dt, ls, pk, body, hl, hf, hlen, hb, rfl⟩ := encRecord_ok_iff.1 h
  simp only [recOk, hl] at hok
  have hmem := lookupWrite_mem hl
  obtain ⟨hbl, heven⟩ := payloadBytes_length (lookupWrite_layoutOk hl) hf hb
  have hknown := List.all_eq_true.1 write_rows_known _ hmem
  simp only [Bool.and_eq_true, Bool.not_eq_true'] at hknown
  -- a read row for this record type with the writer's data type, layout and length rule …
  obtain ⟨rr, hrr, hacc⟩ := List.any_eq_true.1 (List.all_eq_true.1 c01_reader_accepts_writer_rows _ hmem)
  simp only [Bool.and_eq_true, beq_iff_eq] at hacc
  obtain ⟨⟨⟨h1, h2⟩, h3⟩, hsize⟩ := hacc
  have hm : readRowMatches r.rt dt body.length rr = true := by
    rw [hbl, ← h1, ← h2]; exact lenCompat_matches hsize r.pl
  -- … is the only row for this record type, hence the first one that matches
  obtain ⟨rr', hfind⟩ := Option.isSome_iff_exists.1 (List.find?_isSome.2 ⟨rr, hrr, hm⟩)
  have h1' := List.find?_some hfind
  simp only [readRowMatches, Bool.and_eq_true, beq_iff_eq] at h1'
  obtain rfl : rr' = rr := readRow_unique (List.mem_of_find?_eq_some hfind) hrr (h1'.1.trans h1.symm)
  exact readRecord_ok_iff.2 ⟨(payloadLen ls r.pl + 4) / 256, (payloadLen ls r.pl + 4) % 256, dt, body, rr', rfl, by omega, by omega,
    hknown.1.1, hknown.1.2, hknown.2, hfind, by rw [h3]; exact decode_payload pk r.pl body hf hb hok⟩

theorem readRecord_good (bs : Bytes) (r : Rec) (rest : Bytes) (hb : BytesOk bs) (h : readRecord bs = .ok (r, rest)) :
    Good r ∧ BytesOk rest := by
  obtain ⟨l0, l1, dt, body, row, rfl, hlen, hev, _, _, _, hrow, hd⟩ := readRecord_ok_iff.1 h
  simp only [bytesOk_cons, bytesOk_append] at hb
  obtain ⟨h0, h1, -, -, hbody, hrest⟩ := hb
  refine ⟨?_, hrest⟩
  have hgood := List.all_eq_true.1 read_rows_writable row (List.mem_of_find?_eq_some hrow)
  have hmatch := List.find?_some hrow
  obtain ⟨rrt, rdt, rlen, rpk⟩ := row
  obtain ⟨rt, pl⟩ := r
  dsimp only at hd
  simp only [readRowMatches, Bool.and_eq_true, beq_iff_eq] at hmatch
  obtain ⟨rfl, _, e3⟩ := hmatch
  simp only [readRowGood] at hgood
  cases hw : lookupWrite rrt with
  | none => simp [hw] at hgood
  | some w =>
    obtain ⟨dt', ls, pk⟩ := w
    simp only [hw, Bool.and_eq_true, beq_iff_eq] at hgood
    obtain ⟨rfl, hls⟩ := hgood
    obtain ⟨hnr, hf, out, hout⟩ := decodePayload_writable hbody (by omega) hd
    have := decodePayload_len hls (lookupWrite_layoutOk hw) (fun k hk => by subst hk; simpa using e3) (by omega) hd
    exact good_of_row hw hnr hf (by omega) hout

theorem decodable_encRecords : ∀ (pre : List Rec) (e : Rec) (bs t : Bytes),
    encRecords (pre ++ [e]) = .ok bs → (∀ r ∈ pre ++ [e], recOk r) → e.rt = rEndLib → (∀ r ∈ pre, r.rt ≠ rEndLib) →
    decodable (bs ++ t) = (pre ++ [e]).map canonRec
  | [], e, bs, t, h, hok, he, _ => by
    obtain ⟨a, b, h1, h2, rfl⟩ := encRecords_cons_ok.1 h
    cases h2
    rw [decodable_eq, List.append_nil, readRecord_encRecord e a t h1 (hok e (by simp))]
    simp [canonRec, he]
  | r :: rest, e, bs, t, h, hok, he, hne => by
    obtain ⟨a, b, h1, h2, rfl⟩ := encRecords_cons_ok.1 h
    rw [decodable_eq, List.append_assoc, readRecord_encRecord r a (b ++ t) h1 (hok r (by simp))]
    simp only [canonRec, hne r (by simp), if_false]
    rw [decodable_encRecords rest e b t h2 (fun x hx => hok x (by simp at hx ⊢; exact Or.inr hx)) he
      (fun x hx => hne x (by simp [hx]))]
    simp [canonRec]

theorem decodable_good (bs : Bytes) (hb : BytesOk bs) : ∀ r ∈ decodable bs, Good r := by
  fun_induction decodable bs with
  | case1 bs _ => intro r hr; cases hr
  | case2 bs r rest h he =>
    intro x hx; simp only [List.mem_singleton] at hx; subst hx; exact (readRecord_good bs _ rest hb h).1
  | case3 bs r rest h he ih =>
    obtain ⟨hg, hrest⟩ := readRecord_good bs r rest hb h
    intro x hx
    rcases List.mem_cons.1 hx with rfl | hx
    · exact hg
    · exact ih hrest x hx

/-- `c01_roundtrip` with the ranges as the `Prop` `recOk` -/
theorem dec_enc (l : Library) (bs : Bytes) (h : enc l = .ok bs) (hok : libOk l = true) (hb : ∀ r ∈ libRecs l, recOk r) :
    dec bs = .ok (canonLib l) := by
  obtain ⟨pre, hsplit, hne⟩ := libRecs_split l
  unfold enc at h
  rw [hsplit] at h hb
  have hd := decodable_encRecords pre ⟨rEndLib, .none⟩ bs [] h hb rfl hne
  rw [List.append_nil, ← hsplit, map_libRecs] at hd
  have hc : complete (libRecs (canonLib l)) = true := by rw [libRecs, complete_concat]; rfl
  rw [dec_eq, hd, if_pos hc]
  exact c01_tree_roundtrip (canonLib l) (by rw [libOk_canon]; exact hok)

end L21.Gds
