import L21.Spec.GdsFlatten
import L21.Model.RawFlat
import L21.Proofs.RawGdsImport
import L21.Proofs.Dep
import L21.Proofs.ListFacts
/-
C06 as one closed statement (`flatten_import`): flattening the imported raw library = flattening the GDSII data under
GDSII semantics (`Spec/GdsFlatten.lean`); from what one element draws and places, over one structure, over the library.
-/
namespace L21.RawGds
open L21.Geom L21.Gds L21.Aff L21.GdsFlat

def Unit1 (x : Int) : Prop := x = 1 ∨ x = -1

/-- the eight right-angle orientations are the signed permutation matrices -/
def Ortho (t : AffZ) : Prop :=
  (Unit1 t.a ∧ t.b = 0 ∧ t.c = 0 ∧ Unit1 t.d) ∨ (t.a = 0 ∧ Unit1 t.b ∧ Unit1 t.c ∧ t.d = 0)

/-- how a flattened specification shape is presented in the raw model -/
def classify : FShape → Int × Int × Shape
  | .poly l d pts => (l, d, boundaryShape pts)
  | .path l d pts w => (l, d, .path pts w)

/-- what `flattenCell` lists for an element seen through `t` -/
def placedTriple (t : AffZ) (e : Elem) : Int × Int × Shape := (e.layer, e.purpose, e.shape.transform t)

/-- the placement an imported instance stands for -/
def instPlace (i : Inst) : Option (Bytes × AffZ) := (angleQ? i.angle).map (fun q => (i.cell, AffZ.ofInstance i.loc i.refl q))

theorem Unit1.mul {x y : Int} (hx : Unit1 x) (hy : Unit1 y) : Unit1 (x * y) := by
  unfold Unit1; rcases hx with rfl | rfl <;> rcases hy with rfl | rfl <;> decide

theorem Unit1.neg {x : Int} (hx : Unit1 x) : Unit1 (-x) := by
  unfold Unit1; rcases hx with rfl | rfl <;> decide

theorem Unit1.eq_iff {u : Int} (hu : Unit1 u) {x x' k : Int} : u * x + k = u * x' + k ↔ x = x' := by
  rcases hu with rfl | rfl <;> omega

theorem ortho_id : Ortho AffZ.id := .inl ⟨.inl rfl, rfl, rfl, .inl rfl⟩

theorem cosQ_sinQ (q : Nat) : (Unit1 (cosQ q) ∧ sinQ q = 0) ∨ (cosQ q = 0 ∧ Unit1 (sinQ q)) := by
  unfold cosQ sinQ Unit1
  generalize q % 4 = r
  rcases r with _ | _ | _ | _ <;> simp

theorem ortho_ofInstance (loc : Pt) (refl : Bool) (q : Nat) : Ortho (AffZ.ofInstance loc refl q) := by
  unfold AffZ.ofInstance
  cases refl <;> rcases cosQ_sinQ q with ⟨h1, h2⟩ | ⟨h1, h2⟩
  · exact .inl ⟨h1, by simp [h2], h2, h1⟩
  · exact .inr ⟨h1, h2.neg, h2, h1⟩
  · exact .inl ⟨h1, h2, h2, h1.neg⟩
  · exact .inr ⟨h1, h2, h2, by simp [h1]⟩

theorem ortho_cascade {p c : AffZ} (hp : Ortho p) (hc : Ortho c) : Ortho (p.cascade c) := by
  obtain ⟨pa, pb, pc, pd, _, _⟩ := p
  obtain ⟨ca, cb, cc, cd, _, _⟩ := c
  simp only [Ortho, AffZ.cascade] at *
  rcases hp with ⟨ha, rfl, rfl, hd⟩ | ⟨rfl, hb, hcc, rfl⟩ <;>
    rcases hc with ⟨ha', rfl, rfl, hd'⟩ | ⟨rfl, hb', hc', rfl⟩ <;>
    simp only [Int.mul_zero, Int.zero_mul, Int.add_zero, Int.zero_add, true_and, and_true]
  · exact .inl ⟨ha.mul ha', hd.mul hd'⟩
  · exact .inr ⟨ha.mul hb', hd.mul hc'⟩
  · exact .inr ⟨hb.mul hd', hcc.mul ha'⟩
  · exact .inl ⟨hb.mul hc', hcc.mul hb'⟩

theorem Ortho.axes {t : AffZ} (ht : Ortho t) :
    (∀ p q : Pt, ((t.apply p).x = (t.apply q).x ↔ p.x = q.x) ∧ ((t.apply p).y = (t.apply q).y ↔ p.y = q.y)) ∨
    (∀ p q : Pt, ((t.apply p).x = (t.apply q).x ↔ p.y = q.y) ∧ ((t.apply p).y = (t.apply q).y ↔ p.x = q.x)) := by
  unfold AffZ.apply
  rcases ht with ⟨ha, hb, hc, hd⟩ | ⟨ha, hb, hc, hd⟩ <;>
    simp only [ha, hb, hc, hd, Int.zero_mul, Int.add_zero, Int.zero_add, Unit1.eq_iff, and_self, implies_true, true_or, or_true]

theorem boundaryShape_four (a b c d : Pt) :
    boundaryShape [a, b, c, d] = if isRectCycle a b c d then .rect a c else .polygon [a, b, c, d] := by
  simp only [boundaryShape, isRectCycle, Bool.or_eq_true, Bool.and_eq_true, decide_eq_true_eq, and_assoc]

/-- swapping the axes exchanges the two orientations of a rectangle cycle -/
theorem isRectCycle_map {t : AffZ} (ht : Ortho t) (a b c d : Pt) :
    isRectCycle (t.apply a) (t.apply b) (t.apply c) (t.apply d) = isRectCycle a b c d := by
  unfold isRectCycle
  rcases ht.axes with h | h <;> simp only [h]
  exact Bool.or_comm ..

theorem boundaryShape_map {t : AffZ} (ht : Ortho t) (pts : List Pt) :
    boundaryShape (pts.map t.apply) = (boundaryShape pts).transform t := by
  match pts with
  | [a, b, c, d] => simp only [List.map, boundaryShape_four, isRectCycle_map ht]; split <;> rfl
  | [] | [_] | [_, _] | [_, _, _] | _ :: _ :: _ :: _ :: _ :: _ => rfl

-- the specification repeats the importer's helpers on purpose (it does not import the importer's model); these three
-- lemmas identify the copies
theorem allSomeL_eq {α : Type} : ∀ (l : List (Option α)), allSomeL l = allSome l
  | [] => rfl
  | none :: _ => rfl
  | some a :: rest => by simp [allSomeL, allSome, allSomeL_eq rest]

theorem pairUp_eq_points : ∀ (l : List Int), pairUp l = points l
  | [] => rfl
  | [_] => rfl
  | x :: y :: rest => by simp [pairUp, points, pairUp_eq_points rest]

theorem angleQ_eq (a : Option Nat) : angleQ? a = quarter? a := by
  cases a <;> rfl

theorem allSome_eq_some_iff {α : Type} {l : List (Option α)} {r : List α} : allSome l = some r ↔ l = r.map some := by
  have := traverse_iff (F := allSome) (f := id) (c := some) (C := some) (l := l) (bs := r)
    (fun _ => by simp [allSome, eq_comm]) fun a l r => by cases a <;> simp [allSome, @eq_comm _ r]
  rwa [List.map_id] at this

theorem contrib_shapes {known : List Bytes} {e : Gds.Elem} {c : Pass1} {t : AffZ} (ht : Ortho t) {fs : List FShape}
    (hc : contrib known e = .ok c) (hs : ownShapes t e = some fs) : c.elems.map (placedTriple t) = fs.map classify := by
  cases contrib_ok_iff.1 hc with
  | boundary h1 h2 =>
    simp only [ownShapes, ← pairUp_eq_points] at hs
    rw [h1, h2] at hs
    rw [h1]
    simp only [if_true, Option.some.injEq] at hs; subst hs
    simp only [placedTriple, classify, List.map, boundaryShape_map ht]
  | box h1 =>
    simp only [ownShapes, ← pairUp_eq_points, h1] at hs
    split at hs
    · rename_i hr
      cases hs
      simp only [placedTriple, classify, List.map, boundaryShape_four, isRectCycle_map ht, hr, if_true, Shape.transform]
    · cases hs
  | path hv =>
    simp only [ownShapes, ← pairUp_eq_points, hv, if_true, Option.some.injEq] at hs; subst hs
    rfl
  | sref | aref | text | node => cases hs; rfl

theorem instPlace_of_strans {st : Option Strans} {array refl : Bool} {ang : Option Nat}
    (h : importStrans st array = .ok (refl, ang)) (nm cell : Bytes) (loc : Pt) :
    instPlace ⟨nm, cell, loc, refl, ang⟩ = (placement loc st).map (fun p => (cell, p)) := by
  rw [instPlace, angleQ_eq]
  revert h
  -- the paths of `importStrans`: 1 no record, 2–4 its three refusals, 5 the accepted record
  fun_cases importStrans st array
  case case1 => rintro ⟨⟩; rfl
  case case5 h1 _ h3 =>
    rintro ⟨⟩
    rw [placement, if_neg (by rw [Bool.or_eq_true]; exact not_or.2 ⟨h1, h3⟩), Option.map_map]
    rfl
  all_goals nofun

theorem contrib_refs {known : List Bytes} {e : Gds.Elem} {c : Pass1} {rs : List (Bytes × AffZ)}
    (hc : contrib known e = .ok c) (hr : ownRefs e = some rs) : c.insts.map instPlace = rs.map some := by
  cases contrib_ok_iff.1 hc with
  | sref _ h1 h2 =>
    simp only [ownRefs, ← pairUp_eq_points, h1] at hr
    obtain ⟨p, hp, rfl⟩ := Option.map_eq_some_iff.1 hr
    simp only [List.map_cons, List.map_nil, instPlace_of_strans h2, hp]
    rfl
  | aref _ h1 hcr hmod h2 =>
    simp only [ownRefs, ← pairUp_eq_points, h1, hcr, if_false, hmod, allSome_eq_some_iff] at hr
    rw [← hr]
    simp only [arrayInsts, lattice, List.map_flatMap, List.map_map, Function.comp_def, instPlace_of_strans h2]
  | boundary | box | path | text | node => cases hr; rfl

theorem foldl_applyText_placed (t : AffZ) (texts : List (Bytes × Int × Pt)) : ∀ (elems : List Elem) (annots : List (Bytes × Pt)),
    (texts.foldl (fun acc tx => applyText acc.1 acc.2 tx) (elems, annots)).1.map (placedTriple t) = elems.map (placedTriple t) := by
  have e : ∀ l : List Elem, l.map (placedTriple t) =
      (l.map fun e => (e.layer, e.purpose, e.shape)).map fun x => (x.1, x.2.1, x.2.2.transform t) := fun l => by
    rw [List.map_map]; rfl
  induction texts with
  | nil => intro _ _; rfl
  | cons tx rest ih => intro elems annots; rw [List.foldl_cons, ih, e, c06_label_keeps_shapes, ← e]

theorem struct_content {known : List Bytes} {s : Gds.Struct} {cell : Cell} {t : AffZ} (ht : Ortho t)
    {own : List (List FShape)} {refs : List (List (Bytes × AffZ))}
    (hi : importStruct known s = .ok cell)
    (ho : allSome (s.elems.map (ownShapes t)) = some own) (hr : allSome (s.elems.map ownRefs) = some refs) :
    cell.elems.map (placedTriple t) = own.flatten.map classify ∧ cell.insts.map instPlace = refs.flatten.map some := by
  obtain ⟨p1, hp, rfl⟩ := importStruct_ok hi
  obtain ⟨cs, hcs, h1, h2, _⟩ := c06_struct_pass1 known s.elems {} p1 hp
  constructor
  · rw [foldl_applyText_placed, h2, List.nil_append, List.flatMap_def, List.map_flatten, List.map_flatten, List.map_map]
    exact congrArg List.flatten (map_eq_map_of_rel (fun _ _ _ hc hs => contrib_shapes ht hc hs) _ hcs
      (allSome_eq_some_iff.1 ho))
  · rw [h1, List.nil_append, List.flatMap_def, List.map_flatten, List.map_flatten, List.map_map]
    exact congrArg List.flatten (map_eq_map_of_rel (fun _ _ _ hc hs => contrib_refs hc hs) _ hcs
      (allSome_eq_some_iff.1 hr))

theorem importStruct_name {known : List Bytes} {s : Gds.Struct} {c : Cell} (h : importStruct known s = .ok c) : c.name = s.name := by
  obtain ⟨_, _, rfl⟩ := importStruct_ok h
  rfl

/-- `k`: some list of known names; it only serves to reject dangling references -/
theorem importStructs_find : ∀ (ss : List Gds.Struct) (known : List Bytes) (cs : List Cell),
    (ss.map (·.name)).Nodup → (∀ s ∈ ss, s.name ∉ known) → importStructs known ss = .ok cs →
    ∀ s ∈ ss, ∃ k cell, cs.find? (fun c => c.name == s.name) = some cell ∧ importStruct k s = .ok cell
  | [], _, _, _, _, _, _, hs => nomatch hs
  | s0 :: rest, known, cs, hn, hk, h, s, hs => by
    obtain ⟨hn0, hn⟩ := List.nodup_cons.1 hn
    obtain ⟨c0, more, hs0, hr, rfl⟩ := (importStructs_cons_ok (by simpa using hk s0 List.mem_cons_self)).1 h
    have hc0 := importStruct_name hs0
    rcases List.mem_cons.1 hs with rfl | hs
    · exact ⟨known, c0, by simp [hc0], hs0⟩
    · have hne : s0.name ≠ s.name := fun e => hn0 (List.mem_map.2 ⟨s, hs, e.symm⟩)
      obtain ⟨k, cell, hf, hi⟩ := importStructs_find rest (s0.name :: known) more hn
        (fun x hx hm => (List.mem_cons.1 hm).elim (fun e => hn0 (List.mem_map.2 ⟨x, hx, e⟩)) (hk x (List.mem_cons_of_mem _ hx))) hr s hs
      exact ⟨k, cell, by simp [hc0, hne, hf], hi⟩

theorem importLib_cells {g : Gds.Library} {lib : Lib} (hn : (g.structs.map (·.name)).Nodup) (h : importLib g = .ok lib) :
    ∀ s ∈ g.structs, ∃ k cell, lib.cells.find? (fun c => c.name == s.name) = some cell ∧ importStruct k s = .ok cell := by
  obtain ⟨_, order, cs, _, _, ho, hcs, rfl⟩ := importLib_ok_iff.1 h
  intro s hs
  refine importStructs_find _ [] cs (nodup_listed (·.name) g.structs hn order (Dep.order_nodup ho))
    (fun _ _ => List.not_mem_nil) hcs s ?_
  obtain ⟨i, hi, rfl⟩ := List.getElem_of_mem hs
  exact List.mem_filterMap.2 ⟨i, Dep.order_mem ho i (List.mem_range.2 hi), List.getElem?_eq_getElem hi⟩

theorem findStruct_some {g : List Gds.Struct} {name : Bytes} {s : Gds.Struct} (h : findStruct g name = some s) :
    s ∈ g ∧ s.name = name := by
  unfold findStruct at h
  exact ⟨List.mem_of_find?_eq_some h, by simpa using List.find?_some h⟩

theorem flatten_succ (g : List Gds.Struct) (fuel : Nat) (t : AffZ) (name : Bytes) : GdsFlat.flatten g (fuel + 1) t name =
    (findStruct g name).bind fun s => (allSome (s.elems.map (ownShapes t))).bind fun own =>
      (allSome (s.elems.map ownRefs)).bind fun refs =>
        (allSome (refs.flatten.map fun r => GdsFlat.flatten g fuel (t.cascade r.2) r.1)).map fun subs =>
          own.flatten ++ subs.flatten := by
  rw [GdsFlat.flatten]
  cases findStruct g name with
  | none => rfl
  | some s =>
    simp only [Option.bind_some]
    cases allSome (s.elems.map (ownShapes t)) <;> cases allSome (s.elems.map ownRefs) <;> rfl

theorem flattenCell_succ (cells : List Cell) (fuel : Nat) (t : AffZ) (name : Bytes) : flattenCell cells (fuel + 1) t name =
    (cells.find? (fun c => c.name == name)).bind fun c =>
      (allSome ((c.insts.map instPlace).map (·.bind fun r => flattenCell cells fuel (t.cascade r.2) r.1))).map fun subs =>
        c.elems.map (placedTriple t) ++ subs.flatten := by
  simp only [flattenCell, allSomeL_eq, List.map_map, instPlace, Option.bind_map, Function.comp_def]
  cases cells.find? (fun c => c.name == name) <;> rfl

theorem instPlace_ortho {i : Inst} {r : Bytes × AffZ} (h : instPlace i = some r) : Ortho r.2 := by
  simp only [instPlace, Option.map_eq_some_iff] at h
  obtain ⟨q, _, rfl⟩ := h
  exact ortho_ofInstance ..

/-- C06 for every right-angle view `t` and every fuel (the induction needs both general); in Layout21's terms: head of
    `Props/C06` -/
theorem flatten_import {g : Gds.Library} {lib : Lib} (hn : (g.structs.map (·.name)).Nodup) (h : importLib g = .ok lib) :
    ∀ (fuel : Nat) (t : AffZ) (name : Bytes) (fs : List FShape), Ortho t →
      GdsFlat.flatten g.structs fuel t name = some fs →
      flattenCell lib.cells fuel t name = some (fs.map classify)
  | 0, _, _, _, _, hf => nomatch hf
  | fuel + 1, t, name, fs, ht, hf => by
    simp only [flatten_succ, Option.bind_eq_some_iff, Option.map_eq_some_iff] at hf
    obtain ⟨s, hfs, own, ho, refs, hr, subs, hsub, rfl⟩ := hf
    obtain ⟨hs, rfl⟩ := findStruct_some hfs
    obtain ⟨k, cell, hfind, himp⟩ := importLib_cells hn h s hs
    obtain ⟨hel, hin⟩ := struct_content ht himp ho hr
    -- one level down the two flatteners have the same shape: the instances stand for the specification's placements,
    -- and below each of them the induction hypothesis applies
    have hsubs := map_some_congr (k := (·.map classify)) _ (fun r hr x hx => by
      obtain ⟨i, _, hi⟩ := List.mem_map.1 (hin ▸ List.mem_map_of_mem (f := some) hr)
      exact flatten_import hn h fuel _ r.1 x (ortho_cascade ht (instPlace_ortho hi)) hx) (allSome_eq_some_iff.1 hsub)
    rw [flattenCell_succ, hfind, Option.bind_some, hin, List.map_map]
    simp only [Function.comp_def, Option.bind_some, allSome_eq_some_iff.2 hsubs, Option.map_some, hel]
    simp only [List.map_append, List.map_flatten]

end L21.RawGds
