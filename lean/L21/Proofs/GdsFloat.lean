import L21.Model.GdsFloat
/-
The GDSII real codec (C15) on 64-bit patterns and their integer fields, in the order of the model: rounding,
`u64 as f64`, the bit fields, decode, encode, encode then decode.
-/
namespace L21.GdsFloat

/-- `-0.0` and `+0.0` are the same double for the library's `==`; encode maps both to the all-zero real. -/
def canonZero (x : Nat) : Nat := if x % 2 ^ 63 = 0 then 0 else x

/-- x is ±0, or a normal double with 16^-65 ≤ |x| < 16^63 (2^-260 ≤ |x| < 2^252: biased exponents 763 = 1023 − 260
    to 1274 = 1023 + 251): the whole representable range; it contains the property's 16^-64 ≤ |x| < 16^63. -/
def InRange (x : Nat) : Prop :=
  (f64Exp x = 0 ∧ f64Frac x = 0) ∨ (763 ≤ f64Exp x ∧ f64Exp x ≤ 1274)

/-- all-zero, or top hex digit of the mantissa non-zero -/
def Normalised (g : Nat) : Prop := g = 0 ∨ 2 ^ 52 ≤ gMant g

/-- a normal double is `±f64Mant x · 2^(f64Exp x − 1075)` -/
def f64Mant (x : Nat) : Nat := 2 ^ 52 + f64Frac x

theorem bitLen_eq {m k : Nat} (h1 : 2 ^ k ≤ m) (h2 : m < 2 ^ (k+1)) : bitLen m = k + 1 := by
  have hm : m ≠ 0 := by have := Nat.two_pow_pos k; omega
  have a := (Nat.le_log2 hm).2 h1
  have b := (Nat.log2_lt hm).2 h2
  simp only [bitLen, hm, if_false]; omega

theorem rne_zero (m : Nat) : rne m 0 = m := by simp [rne]

theorem rne_eq (q r k : Nat) (hr : r < 2 ^ (k + 1)) :
    rne (q * 2 ^ (k + 1) + r) (k + 1) =
      if r < 2 ^ k then q else if 2 ^ k < r then q + 1 else if q % 2 = 0 then q else q + 1 := by
  have hh : 2 ^ (k + 1) / 2 = 2 ^ k := by rw [Nat.pow_succ]; omega
  have hq : (q * 2 ^ (k + 1) + r) / 2 ^ (k + 1) = q := by
    rw [Nat.mul_comm, Nat.mul_add_div (Nat.two_pow_pos _), Nat.div_eq_of_lt hr, Nat.add_zero]
  have hm : (q * 2 ^ (k + 1) + r) % 2 ^ (k + 1) = r := by
    rw [Nat.mul_comm, Nat.mul_add_mod, Nat.mod_eq_of_lt hr]
  simp only [rne, hq, hm, hh, Nat.succ_ne_zero, if_false]

theorem rne_mul (a k : Nat) : rne (a * 2 ^ k) k = a := by
  cases k with
  | zero => simp [rne_zero]
  | succ j => rw [← Nat.add_zero (a * _), rne_eq a 0 j (Nat.two_pow_pos _), if_pos (Nat.two_pow_pos _)]

theorem exists_qr (m k : Nat) : ∃ q r, r < 2 ^ k ∧ m = q * 2 ^ k + r :=
  ⟨m / 2 ^ k, m % 2 ^ k, Nat.mod_lt _ (Nat.two_pow_pos k), by rw [Nat.mul_comm]; exact (Nat.div_add_mod m _).symm⟩

/-- IEEE-754 roundTiesToEven on integers (obligation of C15) -/
theorem rne_nearest (m k : Nat) :
    (2 * (m - rne m k * 2 ^ k) ≤ 2 ^ k ∧ 2 * (rne m k * 2 ^ k - m) ≤ 2 ^ k) ∧
    ((2 * (m - rne m k * 2 ^ k) = 2 ^ k ∨ (0 < k ∧ 2 * (rne m k * 2 ^ k - m) = 2 ^ k)) → rne m k % 2 = 0) := by
  cases k with
  | zero => simp [rne_zero]
  | succ j =>
    obtain ⟨q, r, hr, rfl⟩ := exists_qr m (j + 1)
    rw [rne_eq q r j hr]
    have hP : 2 ^ (j + 1) = 2 * 2 ^ j := by rw [Nat.pow_succ]; omega
    have := Nat.two_pow_pos j
    -- the candidates `q`, `q + 1` times `2^(j+1)` are linear in `q * 2^(j+1)`
    have e1 : (q + 1) * 2 ^ (j + 1) = q * 2 ^ (j + 1) + 2 ^ (j + 1) := Nat.succ_mul _ _
    split
    · omega
    · split
      · omega
      · split <;> omega

theorem rne_bounds {a b m k : Nat} (ha : a * 2 ^ k ≤ m) (hb : m ≤ b * 2 ^ k) : a ≤ rne m k ∧ rne m k ≤ b := by
  obtain ⟨⟨h1, h2⟩, -⟩ := rne_nearest m k
  have := Nat.two_pow_pos k
  refine ⟨Nat.le_of_not_lt fun h => ?_, Nat.le_of_not_lt fun h => ?_⟩
  · have := Nat.mul_le_mul_right (2 ^ k) (Nat.succ_le_of_lt h)
    rw [Nat.succ_mul] at this; omega
  · have := Nat.mul_le_mul_right (2 ^ k) (Nat.succ_le_of_lt h)
    rw [Nat.succ_mul] at this; omega

theorem rne_binade {a b m k : Nat} (h1 : 2 ^ (a + k) ≤ m) (h2 : m < 2 ^ (b + k)) : 2 ^ a ≤ rne m k ∧ rne m k ≤ 2 ^ b :=
  rne_bounds (by rwa [← Nat.pow_add]) (by rw [← Nat.pow_add]; exact Nat.le_of_lt h2)

/-- The significand is `rne m k ∈ [2^52, 2^53]`; written as a sum, a carry to `2^53` moves into the
    exponent field by itself, so there is one formula for both cases. -/
theorem u64ToF64Bits_eq {m k : Nat} (h1 : 2 ^ (52 + k) ≤ m) (h2 : m < 2 ^ (53 + k)) :
    u64ToF64Bits m = (1074 + k) * 2 ^ 52 + rne m k := by
  have hne : m ≠ 0 := by have := Nat.two_pow_pos (52 + k); omega
  have hb : bitLen m = 53 + k := by
    rw [bitLen_eq h1 (by rwa [show 52 + k + 1 = 53 + k by omega]), Nat.add_right_comm]
  have hq := (rne_binade h1 h2).1
  unfold u64ToF64Bits
  simp only [hne, if_false, hb]
  cases k with
  | zero => rw [rne_zero] at hq ⊢; simp only [Nat.add_zero, Nat.le_refl, if_true, Nat.sub_self, Nat.pow_zero, Nat.mul_one]; omega
  | succ j =>
    simp only [show ¬ 53 + (j + 1) ≤ 53 by omega, if_false, show 53 + (j + 1) - 53 = j + 1 by omega]
    split <;> omega

theorem f64Exp_lt (x : Nat) : f64Exp x < 2048 := by unfold f64Exp; omega
theorem f64Frac_lt (x : Nat) : f64Frac x < 2 ^ 52 := by unfold f64Frac; omega
theorem f64Sign_lt (x : Nat) : f64Sign x < 2 := by unfold f64Sign; omega
theorem gExp_lt (g : Nat) : gExp g < 128 := by unfold gExp; omega
theorem gSign_lt (g : Nat) : gSign g < 2 := by unfold gSign; omega

theorem f64_fields (x : Nat) (hx : x < 2 ^ 64) :
    x = f64Sign x * 2 ^ 63 + f64Exp x * 2 ^ 52 + f64Frac x := by
  unfold f64Sign f64Exp f64Frac; omega

theorem f64_mk_fields {x s be fr : Nat} (hx : x = s * 2 ^ 63 + be * 2 ^ 52 + fr) (hs : s < 2) (hbe : be < 2048)
    (hfr : fr < 2 ^ 52) : f64Sign x = s ∧ f64Exp x = be ∧ f64Frac x = fr := by
  unfold f64Sign f64Exp f64Frac; omega

theorem g_mk_fields {g s e m : Nat} (hg : g = s * 2 ^ 63 + e * 2 ^ 56 + m) (hs : s < 2) (he : e < 128)
    (hm : m < 2 ^ 56) : gSign g = s ∧ gExp g = e ∧ gMant g = m := by
  unfold gSign gExp gMant; omega

theorem g_fields (g : Nat) (hg : g < 2 ^ 64) :
    g = gSign g * 2 ^ 63 + gExp g * 2 ^ 56 + gMant g := by
  unfold gSign gExp gMant; omega

theorem shift_lt {a sh : Nat} (ha : a < 2 ^ 53) (hsh : sh ≤ 3) : a * 2 ^ sh < 2 ^ 56 :=
  calc a * 2 ^ sh < 2 ^ 53 * 2 ^ sh := Nat.mul_lt_mul_of_pos_right ha (Nat.two_pow_pos sh)
    _ ≤ 2 ^ 53 * 2 ^ 3 := Nat.mul_le_mul_left _ (Nat.pow_le_pow_right (by omega) hsh)

theorem shifted_lt (x : Nat) : (2 ^ 52 + f64Frac x) * 2 ^ ((f64Exp x + 5) % 4) < 2 ^ 56 :=
  shift_lt (by have := f64Frac_lt x; omega) (Nat.le_of_lt_succ (Nat.mod_lt _ (by omega)))

/-- 762 = 1074 − 312: the exponent field of `m as f64` less the bias 4·64 + 56 of a GDSII real. -/
theorem decodeBits_eq {g k : Nat} (h1 : 2 ^ (52 + k) ≤ gMant g) (h2 : gMant g < 2 ^ (53 + k)) :
    decodeBits g = gSign g * 2 ^ 63 + (762 + k + 4 * gExp g) * 2 ^ 52 + rne (gMant g) k := by
  have hne : gMant g ≠ 0 := by have := Nat.two_pow_pos (52 + k); omega
  have hk : 52 + k < 56 :=
    (Nat.pow_lt_pow_iff_right (a := 2) (by omega)).1 (Nat.lt_of_le_of_lt h1 (Nat.mod_lt _ (Nat.two_pow_pos 56)))
  obtain ⟨hq1, hq2⟩ := rne_binade h1 h2
  simp only [decodeBits, hne, if_false, u64ToF64Bits_eq h1 h2, f64Exp, f64Frac]
  generalize rne (gMant g) k = q at *
  omega

theorem decodeBits_exact {g fr sh : Nat} (hfr : fr < 2 ^ 52) (hm : gMant g = (2 ^ 52 + fr) * 2 ^ sh) :
    decodeBits g = gSign g * 2 ^ 63 + (763 + sh + 4 * gExp g) * 2 ^ 52 + fr := by
  have h1 : 2 ^ (52 + sh) ≤ gMant g := by rw [hm, Nat.pow_add]; exact Nat.mul_le_mul_right _ (by omega)
  have h2 : gMant g < 2 ^ (53 + sh) := by
    rw [hm, Nat.pow_add]; exact Nat.mul_lt_mul_of_pos_right (by omega) (Nat.two_pow_pos sh)
  rw [decodeBits_eq h1 h2, hm, rne_mul]; omega

/-- On the right, the hex exponent and the shift as the encoder computes them; 763 is the lower end of `InRange`. -/
theorem exp_code {be e sh : Nat} (hbe : 763 ≤ be) :
    be = 763 + sh + 4 * e ∧ sh ≤ 3 ↔ (be + 5) / 4 - 192 = e ∧ (be + 5) % 4 = sh := by
  omega

theorem encodeBits_zero {x : Nat} (h1 : f64Exp x = 0) (h2 : f64Frac x = 0) : encodeBits x = some 0 := by
  simp only [encodeBits, h1, h2, and_self, if_true]

theorem encodeBits_normal {x : Nat} (h1 : 763 ≤ f64Exp x) (h2 : f64Exp x ≤ 1274) :
    encodeBits x = some (f64Sign x * 2 ^ 63 + ((f64Exp x + 5) / 4 - 192) * 2 ^ 56
            + (2 ^ 52 + f64Frac x) * 2 ^ ((f64Exp x + 5) % 4)) := by
  unfold encodeBits
  simp only [show ¬ f64Exp x = 0 by omega, show ¬ f64Exp x = 2047 by omega,
    show ¬ (f64Exp x + 5) / 4 < 192 by omega, show ¬ 319 < (f64Exp x + 5) / 4 by omega, false_and, if_false]

/-- NaN, infinities, IEEE subnormals and magnitudes ≥ 16^63 are errors (obligation of C15). -/
theorem c15_encode_rejects (x : Nat)
    (hr : f64Exp x = 2047 ∨ 1274 < f64Exp x ∨ (f64Exp x = 0 ∧ f64Frac x ≠ 0)) : encodeBits x = none := by
  unfold encodeBits
  rcases hr with h | h | ⟨h, h'⟩
  · simp [h]
  · have b : ¬ (f64Exp x = 0) := by omega
    by_cases c : f64Exp x = 2047
    · simp [c]
    · have d : ¬ ((f64Exp x + 5) / 4 < 192) := by omega
      have e : 319 < (f64Exp x + 5) / 4 := by omega
      simp [b, c, d, e]
  · simp [h, h']

/-- Shape of a successful encoding: zero, normalised, or (below 16^-65) exact denormalised. -/
theorem encodeBits_some (x g : Nat) (h : encodeBits x = some g) :
    (f64Exp x = 0 ∧ f64Frac x = 0 ∧ g = 0) ∨
    (763 ≤ f64Exp x ∧ f64Exp x ≤ 1274 ∧
      g = f64Sign x * 2 ^ 63 + ((f64Exp x + 5) / 4 - 192) * 2 ^ 56
            + (2 ^ 52 + f64Frac x) * 2 ^ ((f64Exp x + 5) % 4)) ∨
    (0 < f64Exp x ∧ f64Exp x < 763 ∧ 4 * (192 - (f64Exp x + 5) / 4) < 56 ∧
      (2 ^ 52 + f64Frac x) * 2 ^ ((f64Exp x + 5) % 4) % 2 ^ (4 * (192 - (f64Exp x + 5) / 4)) = 0 ∧
      g = f64Sign x * 2 ^ 63 +
          (2 ^ 52 + f64Frac x) * 2 ^ ((f64Exp x + 5) % 4) / 2 ^ (4 * (192 - (f64Exp x + 5) / 4))) := by
  rcases Nat.lt_or_ge (f64Exp x) 763 with hlo | hlo
  · by_cases b : f64Exp x = 0
    · by_cases f : f64Frac x = 0
      · rw [encodeBits_zero b f, Option.some.injEq] at h
        exact Or.inl ⟨b, f, h.symm⟩
      · rw [c15_encode_rejects x (Or.inr (Or.inr ⟨b, f⟩))] at h; cases h
    · have c : ¬ f64Exp x = 2047 := by omega
      have d : (f64Exp x + 5) / 4 < 192 := by omega
      simp only [encodeBits, b, c, d, false_and, if_false, if_true] at h
      split at h
      · rename_i hc
        exact Or.inr (Or.inr ⟨by omega, hlo, hc.1, hc.2, (Option.some.inj h).symm⟩)
      · cases h
  · rcases Nat.lt_or_ge 1274 (f64Exp x) with hhi | hhi
    · rw [c15_encode_rejects x (Or.inr (Or.inl hhi))] at h; cases h
    · rw [encodeBits_normal hlo hhi] at h
      exact Or.inr (Or.inl ⟨hlo, hhi, (Option.some.inj h).symm⟩)

theorem encode_normal_fields {x g : Nat} (h1 : 763 ≤ f64Exp x) (h2 : f64Exp x ≤ 1274) (h : encodeBits x = some g) :
    gSign g = f64Sign x ∧ gExp g = (f64Exp x + 5) / 4 - 192 ∧ gMant g = (2 ^ 52 + f64Frac x) * 2 ^ ((f64Exp x + 5) % 4) :=
  g_mk_fields (Option.some.inj ((encodeBits_normal h1 h2).symm.trans h)).symm (f64Sign_lt x) (by omega) (shifted_lt x)

theorem encodeBits_lt (x g : Nat) (h : encodeBits x = some g) : g < 2 ^ 64 := by
  have hs := f64Sign_lt x
  have hm := shifted_lt x
  rcases encodeBits_some x g h with ⟨_, _, rfl⟩ | ⟨h1, h2, rfl⟩ | ⟨h1, h2, h3, h4, rfl⟩
  · decide
  · have : ((f64Exp x + 5) / 4 - 192) * 2 ^ 56 ≤ 127 * 2 ^ 56 := Nat.mul_le_mul_right _ (by omega)
    omega
  · have := Nat.div_le_self ((2 ^ 52 + f64Frac x) * 2 ^ ((f64Exp x + 5) % 4)) (2 ^ (4 * (192 - (f64Exp x + 5) / 4)))
    omega

/-- obligation of C15 and C01 -/
theorem c15_decode_encode (x g : Nat) (hx : x < 2 ^ 64) (hr : InRange x) (h : encodeBits x = some g) :
    decodeBits g = canonZero x := by
  have hxf := f64_fields x hx
  rcases hr with ⟨h1, h2⟩ | ⟨h1, h2⟩
  · have hz : x % 2 ^ 63 = 0 := by have := f64Sign_lt x; omega
    rw [encodeBits_zero h1 h2, Option.some.injEq] at h
    rw [← h, canonZero, if_pos hz]; rfl
  · obtain ⟨gs, ge, gm⟩ := encode_normal_fields h1 h2 h
    have hfr := f64Frac_lt x
    rw [decodeBits_exact hfr gm, gs, ge, canonZero, if_neg (by omega),
      ← ((exp_code h1).2 ⟨rfl, rfl⟩).1]
    exact hxf.symm

end L21.GdsFloat
