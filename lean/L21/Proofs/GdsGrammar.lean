import L21.Proofs.GdsRecs
import L21.Spec.GdsSpec
/-
The record-type sequence the writer emits is a sentence of the manual's BNF (`Spec.gdsGrammar`).
-/
namespace L21.Gds
open L21 L21.Spec

def rts (rs : List Rec) : List Nat := rs.map (·.rt)

theorem rts_append (a b : List Rec) : rts (a ++ b) = rts a ++ rts b := List.map_append
theorem rts_cons (r : Rec) (l : List Rec) : rts (r :: l) = r.rt :: rts l := rfl

/-! An optional slot is skipped correctly whatever it holds, provided the records after it do not begin with the slot's
own record type (`NotHd rt l`: `rt` is not in FIRST of `l`); so the run over one element is linear in its slots. -/
def NotHd (rt : Nat) (l : List Nat) : Prop := ∀ t, l ≠ rt :: t

theorem notHd_nil (rt : Nat) : NotHd rt [] := fun _ e => nomatch e

theorem notHd_cons {rt x : Nat} {l : List Nat} : NotHd rt (x :: l) ↔ x ≠ rt :=
  ⟨fun h e => h l (e ▸ rfl), fun h _ e => h (List.cons.inj e).1⟩

theorem notHd_append {rt : Nat} {p l : List Nat} : NotHd rt (p ++ l) ↔ NotHd rt p ∧ (p = [] → NotHd rt l) := by
  cases p with
  | nil => exact ⟨fun h => ⟨notHd_nil rt, fun _ => h⟩, fun h => h.2 rfl⟩
  | cons x p => exact ⟨fun h => ⟨notHd_cons.2 (notHd_cons.1 h), fun e => (nomatch e)⟩, fun h => notHd_cons.2 (notHd_cons.1 h.1)⟩

theorem notHd_optRec {α : Type} {rt rt' : Nat} {mk : α → Payload} {o : Option α} (h : rt' ≠ rt) :
    NotHd rt (rts (optRec rt' mk o)) := by
  cases o
  · exact notHd_nil rt
  · exact notHd_cons.2 h

theorem expect_cons (rt : Nat) (l : List Nat) : expect rt (rt :: l) = some l := if_pos rfl

theorem skipOpt_notHd {rt : Nat} {l : List Nat} (h : NotHd rt l) : skipOpt rt l = l := by
  match l with
  | [] => rfl
  | x :: t => exact if_neg fun (e : x = rt) => h t (e ▸ rfl)

theorem skipOpt_optRec {α : Type} {rt : Nat} {mk : α → Payload} {o : Option α} {l : List Nat} (h : NotHd rt l) :
    skipOpt rt (rts (optRec rt mk o) ++ l) = l := by
  cases o
  · exact skipOpt_notHd h
  · exact if_pos rfl

theorem notHd_optStrans {rt : Nat} {st : Option Strans} (h : 26 ≠ rt) : NotHd rt (rts (optStrans st)) := by
  cases st
  · exact notHd_nil rt
  · exact notHd_cons.2 h

theorem skipStrans_optStrans {st : Option Strans} {l : List Nat} (h26 : NotHd 26 l) (h27 : NotHd 27 l) (h28 : NotHd 28 l) :
    skipStrans (rts (optStrans st) ++ l) = l := by
  cases st with
  | none =>
    show skipStrans l = l
    unfold skipStrans
    split
    · exact absurd rfl (h26 _)
    · rfl
  | some s =>
    simp only [optStrans, stransRecs, rts_append, rts_cons, List.cons_append, List.nil_append, List.append_assoc, gdsrec, skipStrans]
    rw [skipOpt_optRec (notHd_append.2 ⟨notHd_optRec (by decide), fun _ => h27⟩), skipOpt_optRec h28]

theorem skipProps_props (rest : List Nat) (ps : List Property) (f : Nat) (hf : ps.length + 1 ≤ f) :
    skipProps f (rts (propRecs ps) ++ 0x11 :: rest) = some (0x11 :: rest) := by
  rw [rts, propRecs, List.map_flatMap]
  exact loop_stop_unit (body := skipProps) (fun _ _ _ => rfl) _ _ (fun _ => rfl) ps hf

/-- `{PROPATTR PROPVALUE}* ENDEL`, the common end of every element -/
theorem tail_props (ps : List Property) (rest : List Nat) :
    (skipProps (rts (propRecs ps) ++ 0x11 :: rest).length (rts (propRecs ps) ++ 0x11 :: rest)).bind (expect 0x11) = some rest := by
  rw [skipProps_props rest ps _ (by simp only [List.length_append, List.length_cons, rts, List.length_map, propRecs_length]; omega)]
  exact expect_cons 17 rest

/-- `[ELFLAGS] [PLEX]`, the common beginning -/
theorem head_common (c : Common) {l : List Nat} (h1 : NotHd 38 l) (h2 : NotHd 47 l) :
    skipOpt 47 (skipOpt 38 (rts (commonHead c) ++ l)) = l := by
  show skipOpt 47 (skipOpt 38 (rts (optRec 38 _ c.elflags ++ optRec 47 _ c.plex) ++ l)) = l
  rw [rts_append, List.append_assoc, skipOpt_optRec (notHd_append.2 ⟨notHd_optRec (by decide), fun _ => h1⟩), skipOpt_optRec h2]

theorem element_elemRecs (e : Elem) (rest : List Nat) : element (rts (elemRecs e) ++ rest) = some rest := by
  rw [elemRecs_cons, tailRecs]
  cases e <;>
    simp only [headerRec, elemMid, elemCommon, rts_cons, rts_append, List.cons_append, List.nil_append, List.append_assoc,
      int1, gdsrec, element]
  -- The grammar's FOLLOW-set check: the discharger settles each slot's side condition `NotHd rt l` by the rules for
  -- FIRST of a concatenation, an optional slot and a record, down to inequalities of record numbers.
  all_goals
    simp (disch := simp only [notHd_append, notHd_optRec, notHd_optStrans, notHd_cons, ne_eq, Nat.reduceEqDiff,
        not_false_eq_true, implies_true, and_self])
      only [head_common, expect_cons, Option.bind_eq_bind, Option.bind_some, skipOpt_optRec, skipStrans_optStrans]
  all_goals exact tail_props _ _

theorem elements_elem (f : Nat) (e : Elem) (T : List Nat) : elements (f + 1) (rts (elemRecs e) ++ T) = elements f T := by
  rw [elements, element_elemRecs e T]
  -- the side goal of `elements`' catch-all equation: an element does not begin with ENDSTR
  rw [elemRecs_cons]; exact notHd_cons.2 (by cases e <;> (intro h; cases h))

/-- `{<element>}* ENDSTR` -/
theorem elements_elemRecs (rest : List Nat) (es : List Elem) (f : Nat) (hf : es.length + 1 ≤ f) :
    elements f (rts (es.flatMap elemRecs) ++ 0x07 :: rest) = some rest := by
  rw [rts, List.map_flatMap]
  exact loop_stop_unit (body := elements) elements_elem _ _ (fun f => by simp [elements]) es hf

theorem structures_struct (f : Nat) (s : Struct) (T : List Nat) : structures (f + 1) (rts (structRecs s) ++ T) = structures f T := by
  have hlen := flatMap_elemRecs_length s.elems
  rw [structRecs, rts_append, rts_append, List.append_assoc, List.append_assoc]
  show structures (f + 1) (5 :: 6 :: (rts (s.elems.flatMap elemRecs) ++ 7 :: T)) = _
  rw [structures, elements_elemRecs _ s.elems _ (by simp only [List.length_append, List.length_cons, rts, List.length_map]; omega)]

theorem structures_structRecs (ss : List Struct) (f : Nat) (hf : ss.length + 1 ≤ f) :
    structures f (rts (ss.flatMap structRecs) ++ [0x04]) = true := by
  rw [rts, List.map_flatMap]
  exact loop_stop_unit (body := structures) structures_struct _ _ (fun _ => rfl) ss hf

theorem grammar_libRecs (l : Library) : gdsGrammar (rts (libRecs l)) = true := by
  rw [libRecs, rts_append, rts_append, List.append_assoc]
  show structures (rts (l.structs.flatMap structRecs) ++ [4]).length.succ (rts (l.structs.flatMap structRecs) ++ [4]) = true
  refine structures_structRecs l.structs _ ?_
  rw [List.length_append, rts, List.length_map]
  exact Nat.succ_le_succ (Nat.le_add_right_of_le (flatMap_structRecs_length l.structs))

end L21.Gds
