import L21.Proofs.GdsStep
import L21.Proofs.Gds
/-
`decLazy_eq_dec`: the lazy reader (`Model/GdsLazy`) and the eager `dec` return the same result for every byte string.

One `next()` hands out the head of the view (`gview`) and moves to its tail, or fails, and then the view is not
`complete`.  For every loop a simulation lemma (`Sim`, `SimL`), by the functional induction principle of the lazy loop;
on an incomplete view the eager reader fails as well (`dec_eq`).

Cases (numbered as said in GdsStep; without the length tests, so not the list twins' numbers).  `parseElemsL`: 1 no
budget, 2 `next()` fails, 3 ENDSTR, 4 not an element header, 5 / 6 the element fails / is read.  `parseLibBodyL`: 1 no
budget, 2 `next()` fails, 3 / 4 ENDLIB with / without name and units set, 5 LIBNAME, 6 UNITS, 7 / 8 BGNSTR STRNAME and
the elements fail / are read, 9 BGNSTR without STRNAME, 10 any other record.
-/
namespace L21.Gds

/-- the record list the eager reader has in front of it where the lazy reader is in state `s` -/
def gview (s : LS) : List Rec := if s.nxt.rt = rEndLib then [s.nxt] else s.nxt :: decodable s.rest

theorem gview_ne_nil (s : LS) : gview s ≠ [] := by unfold gview; split <;> simp

theorem gview_cons (s : LS) : ∃ t, gview s = s.nxt :: t := by unfold gview; split <;> exact ⟨_, rfl⟩

theorem gview_length (s : LS) : (gview s).length ≤ s.rest.length / 4 + 1 := by
  unfold gview; split
  · simp
  · have := decodable_length s.rest; simp; omega

/-- what the simulations keep of "`s'` is reached from `s` by calls of `next()`": a budget that suffices at `s` suffices
    at `s'`, and a fault lies ahead of both or of neither -/
def Later (s s' : LS) : Prop := (gview s').length ≤ (gview s).length ∧ complete (gview s') = complete (gview s)

theorem Later.refl (s : LS) : Later s s := ⟨Nat.le_refl _, rfl⟩
theorem Later.trans {a b c : LS} (h1 : Later a b) (h2 : Later b c) : Later a c :=
  ⟨Nat.le_trans h2.1 h1.1, h2.2.trans h1.2⟩
theorem Later.of_cons {s s' : LS} {x : Rec} (h : gview s = x :: gview s') : Later s s' :=
  ⟨by rw [h]; exact Nat.le_succ _, by rw [h, complete_cons _ (gview_ne_nil s')]⟩

/-- `next()` fails on a fault in the record behind the peeked one -/
theorem next_err {s : LS} (h : s.next = .err) : complete (gview s) = false := by
  unfold LS.next at h
  unfold gview
  split at h
  · cases h
  · rename_i he
    rw [if_neg he, decodable_eq]
    split at h
    · cases h
    · rename_i hr; rw [hr]; simpa [complete_single] using he

/-- ENDLIB is handed out forever: then the view does not move -/
theorem next_ok {s s1 : LS} {r : Rec} (h : s.next = .ok (r, s1)) :
    r = s.nxt ∧ gview s = r :: (if r.rt = rEndLib then [] else gview s1) := by
  unfold LS.next at h
  unfold gview
  split at h
  · rename_i he; cases h; exact ⟨rfl, by rw [if_pos he, if_pos he]⟩
  · rename_i he
    split at h
    · rename_i r' rest hr; cases h; refine ⟨rfl, ?_⟩; rw [if_neg he, if_neg he, decodable_eq, hr]
    · cases h

theorem next_view {s s1 : LS} {r : Rec} (h : s.next = .ok (r, s1)) (hr : r.rt ≠ rEndLib) : gview s = r :: gview s1 := by
  rw [(next_ok h).2, if_neg hr]

theorem next_reject {s : LS} {p : Rec → Prop} (h : ∀ r s', s.next = .ok (r, s') → ¬ p r) :
    complete (gview s) = false ∨ ∃ r t, gview s = r :: t ∧ ¬ p r := by
  cases hn : s.next with
  | err => exact Or.inl (next_err hn)
  | ok x => exact Or.inr ⟨x.1, _, (next_ok hn).2, h _ _ hn⟩

/-- a lazy loop started in `s` against the outcome `q` of its list twin on the view of `s`: the same value, leaving the
    view of the new state; a failure is the twin's failure too unless a fault lies ahead (then `dec` fails before it parses) -/
def Sim {α : Type} (s : LS) (q : Out (α × List Rec)) : Out (α × LS) → Prop
  | .ok (a, s') => q = .ok (a, gview s') ∧ Later s s'
  | .err => complete (gview s) = true → q = .err

theorem Sim.incomplete {α : Type} {s : LS} (q : Out (α × List Rec)) (h : complete (gview s) = false) : Sim s q .err :=
  fun hc => by rw [h] at hc; cases hc
theorem Sim.lift {α : Type} {s s1 : LS} {q q1 : Out (α × List Rec)} {r : Out (α × LS)} (hq : q = q1) (hl : Later s s1)
    (h : Sim s1 q1 r) : Sim s q r := by
  subst hq
  match r, h with
  | .err, h => exact fun hc => h (hl.2.trans hc)
  | .ok (a, s'), h => exact ⟨h.1, hl.trans h.2⟩

theorem strans_sim (f : Nat) (st : Strans) (s : LS) (hf : (gview s).length ≤ f) :
    Sim s (.ok (parseStransTail st (gview s))) (parseStransTailL f st s) := by
  fun_induction parseStransTailL f st s
  case case1 => exact absurd (List.length_eq_zero_iff.1 (Nat.le_zero.1 hf)) (gview_ne_nil _)
  case case3 hn | case5 hn => exact Sim.incomplete _ (next_err hn)
  case case2 s m hm r s' hn ih | case4 s m hm r s' hn ih =>
    obtain ⟨rfl, -⟩ := next_ok hn
    have hv := next_view hn (by simp [hm, rEndLib])
    rw [hv] at hf
    exact Sim.lift (by rw [hv, hm, parseStransTail]) (Later.of_cons hv) (ih (Nat.le_of_succ_le_succ hf))
  case case6 s h1 h2 =>
    obtain ⟨t, ht⟩ := gview_cons s
    refine ⟨?_, Later.refl s⟩
    rw [ht, parseStransTail]
    · exact fun m _ e => h1 m (List.cons.inj e).1
    · exact fun a _ e => h2 a (List.cons.inj e).1

theorem elemAct_endlib (k : EK) (b : B) (r : Rec) (h : r.rt = rEndLib) : elemAct k b r = .bad := by
  obtain ⟨rt, pl⟩ := r
  cases h
  cases pl with
  | ints l =>
    match l with
    | [v] => cases k <;> rfl
    | [] | _ :: _ :: _ => rfl
  | _ => rfl

/-- the view moves on with the state unless the record is ENDLIB, and that one is `.bad` -/
theorem elem_step {k : EK} {b : B} {s s1 : LS} {r : Rec} (f : Nat) (hn : s.next = .ok (r, s1)) {a : Act} (ha : elemAct k b r = a)
    (hne : a ≠ .bad) : parseElem k (f + 1) b (gview s) = stepOf k f b (gview s1) a ∧ Later s s1 := by
  have hv := next_view hn fun e => hne (ha ▸ elemAct_endlib k b r e)
  exact ⟨by rw [hv, parseElem_step, ha], Later.of_cons hv⟩

/-- Cases: 1 no budget, 2 `next()` fails, 3 / 4 ENDEL and the element is / is not built, 5 a field record, 6 / 7 PROPATTR
    with / without a PROPVALUE behind it, 8 / 9 STRANS and its tail is / is not read, 10 any other record. -/
theorem elem_sim (k : EK) (f : Nat) (b : B) (s : LS) : Sim s (parseElem k f b (gview s)) (parseElemL k f b s) := by
  fun_induction parseElemL k f b s
  case case1 => exact fun _ => rfl
  case case2 hn => exact Sim.incomplete _ (next_err hn)
  case case10 hn ha => exact fun _ => by rw [(next_ok hn).2, parseElem_step, ha]; rfl
  case case3 f b s r s1 hn ha e hb =>
    obtain ⟨hq, hl⟩ := elem_step f hn ha nofun
    exact ⟨by rw [hq]; simp only [stepOf, hb], hl⟩
  case case4 f b s r s1 hn ha hb =>
    obtain ⟨hq, -⟩ := elem_step f hn ha nofun
    exact fun _ => by rw [hq]; simp only [stepOf, hb]
  case case5 f b s r s1 hn b' ha ih =>
    obtain ⟨hq, hl⟩ := elem_step f hn ha nofun
    exact Sim.lift hq hl ih
  case case6 f b s r s1 hn attr ha v s2 hn1 ih =>
    obtain ⟨hq, hl⟩ := elem_step f hn ha nofun
    have hv1 := next_view hn1 nofun
    exact Sim.lift (by rw [hq, hv1]; rfl) (hl.trans (Later.of_cons hv1)) ih
  case case7 f b s r s1 hn attr ha hno =>
    obtain ⟨hq, hl⟩ := elem_step f hn ha nofun
    rcases next_reject (p := fun r => ∃ v, r = ⟨44, .str v⟩) (fun r s' h ⟨v, e⟩ => hno v s' (e ▸ h)) with hc | ⟨r', t, ht, hne⟩
    · exact Sim.incomplete _ (hl.2 ▸ hc)
    · exact fun _ => by rw [hq, ht]; exact propOf_eq_err fun v rest e => hne ⟨v, (List.cons.inj e).1⟩
  case case8 f b s r s1 hn d0 d1 ha st s2 hst ih =>
    obtain ⟨hq, hl⟩ := elem_step f hn ha nofun
    have hs := strans_sim (s1.rest.length + 2) (mkStrans d0 d1) s1 (by have := gview_length s1; omega)
    rw [hst] at hs
    exact Sim.lift (by rw [hq]; simp only [stepOf, Out.ok.inj hs.1]) (hl.trans hs.2) ih
  case case9 f b s r s1 hn d0 d1 ha hst =>
    obtain ⟨-, hl⟩ := elem_step f hn ha nofun
    have hs := strans_sim (s1.rest.length + 2) (mkStrans d0 d1) s1 (by have := gview_length s1; omega)
    rw [hst] at hs
    exact fun hc => nomatch hs (hl.2 ▸ hc)

/-- the element loop as `parse_struct` calls it, each reader with its own budget -/
theorem runElem_sim (k : EK) (b : B) (s : LS) : Sim s (runElem k b (gview s)) (parseElemL k (s.rest.length + 2) b s) := by
  have h := elem_sim k (s.rest.length + 2) b s
  rwa [parseElem_fuel_le k b (gview s) (by have := gview_length s; omega)] at h

theorem elems_sim (f : Nat) (acc : List Elem) (s : LS) : Sim s (parseElems f acc (gview s)) (parseElemsL f acc s) := by
  fun_induction parseElemsL f acc s
  case case1 => exact fun _ => rfl
  case case2 hn => exact Sim.incomplete _ (next_err hn)
  case case3 hn hend =>
    have hv := next_view hn (by rw [hend.1]; decide)
    exact ⟨by rw [hv, parseElems, if_pos hend], Later.of_cons hv⟩
  case case4 hn hend hk => exact fun _ => by rw [(next_ok hn).2, parseElems, if_neg hend, hk]
  case case5 f acc s r s1 hn hend k hk he =>
    -- the header record of an element is not ENDLIB
    have hv := next_view hn fun e => by rw [e] at hk; cases hk
    have hs := runElem_sim k {} s1
    rw [he, runElem] at hs
    exact fun hc => by rw [hv, parseElems, if_neg hend]; simp only [hk, hs ((Later.of_cons hv).2 ▸ hc)]
  case case6 f acc s r s1 hn hend k hk e s2 he ih =>
    have hv := next_view hn fun e => by rw [e] at hk; cases hk
    have hs := runElem_sim k {} s1
    rw [he, runElem] at hs
    refine Sim.lift ?_ ((Later.of_cons hv).trans hs.2) ih
    rw [hv, parseElems, if_neg hend]; simp only [hk, hs.1]
    exact if_pos (Nat.lt_succ_of_le hs.2.1)

/-- `Sim` for the two loops that end the library: no state is left, and a value is returned only after ENDLIB was
    consumed, so the view was complete -/
def SimL {α : Type} (s : LS) (q : Out α) : Out α → Prop
  | .ok a => q = .ok a ∧ complete (gview s) = true
  | .err => complete (gview s) = true → q = .err

theorem SimL.incomplete {α : Type} {s : LS} (q : Out α) (h : complete (gview s) = false) : SimL s q .err :=
  fun hc => by rw [h] at hc; cases hc
theorem SimL.lift {α : Type} {s s1 : LS} {q q1 : Out α} {r : Out α} (hq : q = q1) (hl : Later s s1) (h : SimL s1 q1 r) :
    SimL s q r := by
  subst hq
  match r, h with
  | .err, h => exact fun hc => h (hl.2.trans hc)
  | .ok a, h => exact ⟨h.1, hl.2.symm.trans h.2⟩

theorem lib_sim (v : Int) (d : List Int) (f : Nat) (lb : LB) (s : LS) :
    SimL s (parseLibBody v d f lb (gview s)) (parseLibBodyL v d f lb s) := by
  fun_induction parseLibBodyL v d f lb s
  case case1 => exact fun _ => rfl
  case case2 hn => exact SimL.incomplete _ (next_err hn)
  case case3 f lb s s1 n u hu hn' hn =>
    have hv : gview s = [⟨4, .none⟩] := (next_ok hn).2
    exact ⟨by rw [hv, parseLibBody, hn', hu], by rw [hv]; rfl⟩
  case case4 f lb s s1 hno hn =>
    exact fun _ => by rw [(next_ok hn).2, parseLibBody]; split; exact (hno _ _ ‹_› ‹_›).elim; rfl
  case case5 f lb s s1 n hn ih | case6 f lb s s1 a b hn ih =>
    have hv := next_view hn nofun
    exact SimL.lift (by rw [hv, parseLibBody]) (Later.of_cons hv) ih
  case case7 f lb s s1 sd sname s2 hn1 hes hn =>
    have hv := next_view hn nofun
    have hv1 := next_view hn1 nofun
    have hl := (Later.of_cons hv).trans (Later.of_cons hv1)
    have hs := elems_sim (s2.rest.length + 2) [] s2
    rw [hes, parseElems_fuel_le [] (gview s2) (by have := gview_length s2; omega)] at hs
    exact fun hc => by rw [hv, hv1, parseLibBody]; simp only [hs (hl.2 ▸ hc)]
  case case8 f lb s s1 sd sname s2 hn1 elems s3 hes hn ih =>
    have hv := next_view hn nofun
    have hv1 := next_view hn1 nofun
    have hl := (Later.of_cons hv).trans (Later.of_cons hv1)
    have hs := elems_sim (s2.rest.length + 2) [] s2
    rw [hes, parseElems_fuel_le [] (gview s2) (by have := gview_length s2; omega)] at hs
    refine SimL.lift ?_ (hl.trans hs.2) ih
    rw [hv, hv1, parseLibBody]; simp only [hs.1]
    exact if_pos (show _ < (_ :: _).length from Nat.lt_succ_of_le hs.2.1)
  case case9 f lb s s1 sd hno hn =>
    have hv := next_view hn nofun
    rcases next_reject (p := fun r => ∃ n, r = ⟨6, .str n⟩) (fun r s' h ⟨n, e⟩ => hno n s' (e ▸ h)) with hc | ⟨r', t, ht, hne⟩
    · exact SimL.incomplete _ ((Later.of_cons hv).2 ▸ hc)
    · exact fun _ => by rw [hv, ht, parseLibBody]; exact fun n _ e => hne ⟨n, (List.cons.inj e).1⟩
  case case10 hn _ _ _ _ => exact fun _ => by rw [(next_ok hn).2, parseLibBody] <;> assumption

theorem top_sim (s : LS) : SimL s (parseLib (gview s)) (parseLibL s) := by
  fun_cases parseLibL s
  case case1 v s1 hn dd s2 hn1 =>
    have hv := next_view hn nofun
    have hv1 := next_view hn1 nofun
    have h := lib_sim v dd (s2.rest.length + 2) {} s2
    rw [parseLibBody_fuel_le v dd {} (gview s2) (by have := gview_length s2; omega)] at h
    exact SimL.lift (by rw [hv, hv1, parseLib]) ((Later.of_cons hv).trans (Later.of_cons hv1)) h
  case case2 v s1 hn hno =>
    have hv := next_view hn nofun
    rcases next_reject (p := fun r => ∃ dd, r = ⟨1, .ints dd⟩) (fun r s' h ⟨dd, e⟩ => hno dd s' (e ▸ h)) with hc | ⟨r', t, ht, hne⟩
    · exact SimL.incomplete _ ((Later.of_cons hv).2 ▸ hc)
    · exact fun _ => by rw [hv, ht]; exact parseLib_not1 _ _ _ fun dd e => hne ⟨dd, e⟩
  case case3 hno =>
    rcases next_reject (p := fun r => ∃ v, r = ⟨0, .ints [v]⟩) (fun r s' h ⟨v, e⟩ => hno v s' (e ▸ h)) with hc | ⟨r', t, ht, hne⟩
    · exact SimL.incomplete _ hc
    · exact fun _ => by rw [ht]; exact parseLib_not0 _ _ fun v e => hne ⟨v, e⟩

theorem decLazy_eq_dec (bs : Bytes) : decLazy bs = dec bs := by
  unfold decLazy LS.init
  rw [dec_eq, decodable_eq]
  cases hr : readRecord bs with
  | err => rfl
  | ok p =>
    obtain ⟨r, rest⟩ := p
    have h := top_sim ⟨r, rest⟩
    show parseLibL ⟨r, rest⟩ = if complete (gview ⟨r, rest⟩) = true then parseLib (gview ⟨r, rest⟩) else .err
    generalize parseLibL ⟨r, rest⟩ = q at h ⊢
    match q, h with
    | .ok l, ⟨h1, h2⟩ => rw [if_pos h2]; exact h1.symm
    | .err, h =>
      by_cases hc : complete (gview ⟨r, rest⟩) = true
      · rw [if_pos hc]; exact (h hc).symm
      · rw [if_neg hc]

end L21.Gds
