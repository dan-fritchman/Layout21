import L21.Model.Gds
import L21.Proofs.GdsFloat
import L21.Proofs.ListFacts
import L21.Proofs.GdsAttr
/-
The library as the writer lays it out.  First the words of the round-trip statements of C01 and C10: shape (`libOk`),
canonical form (`canonLib`), value ranges (`recOk`, as a check `recOkB`), input bytes (`BytesOk`).  Then `libRecs`: every
element is header record, ELFLAGS/PLEX, middle, properties, ENDEL, the shape GdsTree, GdsGrammar and GdsImage work on.
-/
namespace L21.Gds
open L21 L21.GdsFloat

/-- element well-formedness: the coordinate list has the shape its kind demands -/
def elemOk : Elem → Bool
  | .boundary _ _ xy _ => xyOk .boundary xy
  | .path _ _ xy _ _ _ _ _ => xyOk .path xy
  | .sref _ xy _ _ => xyOk .sref xy
  | .aref _ xy _ _ _ _ => xyOk .aref xy
  | .text _ _ _ xy _ _ _ _ _ => xyOk .text xy
  | .node _ _ xy _ => xyOk .node xy
  | .box _ _ xy _ => xyOk .box xy

def structOk (s : Struct) : Bool := s.elems.all elemOk
def libOk (l : Library) : Bool := l.structs.all structOk

def canonPl : Payload → Payload
  | .reals l => .reals (l.map canonZero)
  | p => p

def canonRec (r : Rec) : Rec := ⟨r.rt, canonPl r.pl⟩

def canonStrans (s : Strans) : Strans := { s with mag := s.mag.map canonZero, angle := s.angle.map canonZero }
def canonElem : Elem → Elem
  | .sref n xy st c => .sref n xy (st.map canonStrans) c
  | .aref n xy cs rs st c => .aref n xy cs rs (st.map canonStrans) c
  | .text s l t xy p pt w st c => .text s l t xy p pt w (st.map canonStrans) c
  | e => e
/-- what is read back: −0.0 as +0.0 -/
def canonLib (l : Library) : Library :=
  { l with units := (canonZero l.units.1, canonZero l.units.2),
           structs := l.structs.map fun s => { s with elems := s.elems.map canonElem } }

def i16Ok (v : Int) : Prop := -32768 ≤ v ∧ v < 32768
def i32Ok (v : Int) : Prop := -2147483648 ≤ v ∧ v < 2147483648
def realOk (x : Nat) : Prop := x < 2 ^ 64 ∧ InRange x

/-- value ranges of the Rust types behind a payload (i16 / i32 / f64 in the GDSII range / UTF-8 `String`) -/
def plOk (pk : PK) : Payload → Prop
  | .ints l => (match pk with | .i16 _ => ∀ v ∈ l, i16Ok v | _ => ∀ v ∈ l, i32Ok v)
  | .reals l => ∀ x ∈ l, realOk x
  | .str s => validUtf8 s = true
  | .bits a b => a < 256 ∧ b < 256
  | .none => True

def recOk (r : Rec) : Prop :=
  match lookupWrite r.rt with
  | some (_, _, pk) => plOk pk r.pl
  | none => True

-- the same as checks, so that the hypotheses of C01 / C10 can be evaluated on an example
def inRangeB (x : Nat) : Bool := (f64Exp x == 0 && f64Frac x == 0) || (decide (763 ≤ f64Exp x) && decide (f64Exp x ≤ 1274))
def plOkB (pk : PK) : Payload → Bool
  | .ints l => (match pk with
      | .i16 _ => l.all fun v => decide (-32768 ≤ v) && decide (v < 32768)
      | _ => l.all fun v => decide (-2147483648 ≤ v) && decide (v < 2147483648))
  | .reals l => l.all fun x => decide (x < 2 ^ 64) && inRangeB x
  | .str s => validUtf8 s
  | .bits a b => decide (a < 256) && decide (b < 256)
  | .none => true
def recOkB (r : Rec) : Bool :=
  match lookupWrite r.rt with
  | some (_, _, pk) => plOkB pk r.pl
  | none => true

theorem plOk_of_B (pk : PK) (pl : Payload) (h : plOkB pk pl = true) : plOk pk pl := by
  cases pl with
  | none => trivial
  | bits a b => simpa [plOkB, plOk] using h
  | str s => simpa [plOkB, plOk] using h
  | reals l =>
    simp only [plOkB, List.all_eq_true, Bool.and_eq_true, decide_eq_true_eq] at h
    intro x hx
    obtain ⟨h1, h2⟩ := h x hx
    refine ⟨h1, ?_⟩
    simp only [inRangeB, Bool.or_eq_true, Bool.and_eq_true, beq_iff_eq, decide_eq_true_eq] at h2
    exact h2
  | ints l =>
    cases pk <;> simp only [plOkB, plOk, List.all_eq_true, Bool.and_eq_true, decide_eq_true_eq] at h ⊢ <;>
      exact fun v hv => h v hv

theorem recOk_of_B (r : Rec) (h : recOkB r = true) : recOk r := by
  unfold recOkB at h
  unfold recOk
  cases hl : lookupWrite r.rt with
  | none => trivial
  | some row => obtain ⟨dt, ls, pk⟩ := row; simp only [hl] at h ⊢; exact plOk_of_B pk r.pl h

/-- the reader's input: `Bytes` is `List Nat`, a byte is a number below 256 -/
def BytesOk (bs : Bytes) : Prop := ∀ b ∈ bs, b < 256

attribute [gdsrec] rHeader rBgnLib rLibName rUnits rEndLib rBgnStruct rStructName rEndStruct rBoundary rPath rStructRef rArrayRef
  rText rLayer rDataType rWidth rXy rEndElement rStructRefName rColRow rNode rTextType rPresentation rString rStrans rMag rAngle
  rPathType rElemFlags rNodetype rPropAttr rPropValue rBox rBoxType rPlex rBeginExtn rEndExtn

theorem propRecs_length (ps : List Property) : (propRecs ps).length = 2 * ps.length :=
  length_flatMap_const fun _ _ => rfl

def kindOf : Elem → EK
  | .boundary .. => .boundary | .path .. => .path | .sref .. => .sref | .aref .. => .aref
  | .text .. => .text | .node .. => .node | .box .. => .box

/-- the records of an element between ELFLAGS/PLEX and the properties -/
def elemMid : Elem → List Rec
  | .boundary layer dt xy _ => [⟨rLayer, int1 layer⟩, ⟨rDataType, int1 dt⟩, ⟨rXy, .ints xy⟩]
  | .path layer dt xy width pt be ee _ =>
    [⟨rLayer, int1 layer⟩, ⟨rDataType, int1 dt⟩]
      ++ optRec rPathType int1 pt ++ optRec rWidth int1 width ++ optRec rBeginExtn int1 be ++ optRec rEndExtn int1 ee
      ++ [⟨rXy, .ints xy⟩]
  | .sref name xy st _ => [⟨rStructRefName, .str name⟩] ++ optStrans st ++ [⟨rXy, .ints xy⟩]
  | .aref name xy cols rows st _ =>
    [⟨rStructRefName, .str name⟩] ++ optStrans st ++ [⟨rColRow, .ints [cols, rows]⟩, ⟨rXy, .ints xy⟩]
  | .text s layer tt xy pres pt width st _ =>
    [⟨rLayer, int1 layer⟩, ⟨rTextType, int1 tt⟩]
      ++ optRec rPresentation (fun (e : Nat × Nat) => .bits e.1 e.2) pres ++ optRec rPathType int1 pt ++ optRec rWidth int1 width
      ++ optStrans st ++ [⟨rXy, .ints xy⟩, ⟨rString, .str s⟩]
  | .node layer nt xy _ => [⟨rLayer, int1 layer⟩, ⟨rNodetype, int1 nt⟩, ⟨rXy, .ints xy⟩]
  | .box layer bt xy _ => [⟨rLayer, int1 layer⟩, ⟨rBoxType, int1 bt⟩, ⟨rXy, .ints xy⟩]

def elemCommon : Elem → Common
  | .boundary _ _ _ c | .path _ _ _ _ _ _ _ c | .sref _ _ _ c | .aref _ _ _ _ _ c
  | .text _ _ _ _ _ _ _ _ c | .node _ _ _ c | .box _ _ _ c => c

def headerRec : Elem → Rec
  | .boundary .. => ⟨rBoundary, .none⟩ | .path .. => ⟨rPath, .none⟩ | .sref .. => ⟨rStructRef, .none⟩
  | .aref .. => ⟨rArrayRef, .none⟩ | .text .. => ⟨rText, .none⟩ | .node .. => ⟨rNode, .none⟩ | .box .. => ⟨rBox, .none⟩

def tailRecs (e : Elem) : List Rec :=
  commonHead (elemCommon e) ++ (elemMid e ++ (propRecs (elemCommon e).props ++ [⟨rEndElement, .none⟩]))

theorem elemRecs_cons (e : Elem) : elemRecs e = headerRec e :: tailRecs e := by
  cases e <;> simp [elemRecs, elemMid, headerRec, elemCommon, tailRecs, List.append_assoc]

theorem flatMap_elemRecs_length (es : List Elem) : es.length ≤ (es.flatMap elemRecs).length :=
  flatMap_len_le _ (fun e => by rw [elemRecs_cons]; exact Nat.le_add_left ..) es

theorem flatMap_structRecs_length (ss : List Struct) : ss.length ≤ (ss.flatMap structRecs).length :=
  flatMap_len_le _ (fun s => by simp [structRecs]) ss

theorem map_optRec_int (rt : Nat) (o : Option Int) : (optRec rt int1 o).map canonRec = optRec rt int1 o := by
  cases o <;> simp [optRec, canonRec, canonPl, int1]
theorem map_optRec_bits (rt : Nat) (o : Option (Nat × Nat)) :
    (optRec rt (fun (e : Nat × Nat) => Payload.bits e.1 e.2) o).map canonRec = optRec rt (fun (e : Nat × Nat) => Payload.bits e.1 e.2) o := by
  cases o <;> simp [optRec, canonRec, canonPl]
theorem map_commonHead (c : Common) : (commonHead c).map canonRec = commonHead c := by
  simp [commonHead, List.map_append, map_optRec_int, map_optRec_bits]
theorem map_propRecs (ps : List Property) : (propRecs ps).map canonRec = propRecs ps := by
  simp [propRecs, List.map_flatMap, canonRec, canonPl, int1]
theorem map_optStrans (st : Option Strans) : (optStrans st).map canonRec = optStrans (st.map canonStrans) := by
  cases st with
  | none => rfl
  | some s =>
    obtain ⟨r, am, aa, mag, angle⟩ := s
    cases mag <;> cases angle <;> simp [optStrans, stransRecs, optRec, canonRec, canonPl, canonStrans]

theorem map_elemRecs (e : Elem) : (elemRecs e).map canonRec = elemRecs (canonElem e) := by
  cases e <;>
    simp [elemRecs, canonElem, List.map_append, map_commonHead, map_propRecs, map_optStrans, map_optRec_int, map_optRec_bits,
      canonRec, canonPl, int1]

theorem map_libRecs (l : Library) : (libRecs l).map canonRec = libRecs (canonLib l) := by
  simp [libRecs, canonLib, structRecs, List.map_flatMap, List.flatMap_map, map_elemRecs, canonRec, canonPl, int1]

theorem elemOk_canon (e : Elem) : elemOk (canonElem e) = elemOk e := by cases e <;> rfl
theorem libOk_canon (l : Library) : libOk (canonLib l) = libOk l := by
  simp [libOk, structOk, canonLib, List.all_map, Function.comp_def, elemOk_canon]; rfl

theorem mem_optRec {α : Type} (rt : Nat) (mk : α → Payload) (o : Option α) (r : Rec) (h : r ∈ optRec rt mk o) : r.rt = rt := by
  cases o <;> simp [optRec] at h; subst h; rfl

def notEnd (r : Rec) : Bool := r.rt != 4

theorem all_optRec {α : Type} (rt : Nat) (mk : α → Payload) (o : Option α) (h : rt ≠ 4) : (optRec rt mk o).all notEnd = true := by
  cases o <;> simp [optRec, notEnd, h]
theorem all_propRecs (ps : List Property) : (propRecs ps).all notEnd = true := by
  simp [propRecs, notEnd, gdsrec]
theorem all_commonHead (c : Common) : (commonHead c).all notEnd = true := by
  simp [commonHead, List.all_append, all_optRec, gdsrec]
theorem all_optStrans (st : Option Strans) : (optStrans st).all notEnd = true := by
  cases st with
  | none => rfl
  | some s => simp [optStrans, stransRecs, List.all_append, all_optRec, notEnd, gdsrec]

theorem elemRecs_all_notEnd (e : Elem) : (elemRecs e).all notEnd = true := by
  cases e <;>
    simp [elemRecs, List.all_append, all_commonHead, all_propRecs, all_optStrans, all_optRec, notEnd, gdsrec]

theorem libRecs_split (l : Library) : ∃ pre, libRecs l = pre ++ [⟨rEndLib, .none⟩] ∧ ∀ r ∈ pre, r.rt ≠ rEndLib := by
  refine ⟨_, rfl, fun r hr => ?_⟩
  have : (([⟨rHeader, int1 l.version⟩, ⟨rBgnLib, .ints l.dates⟩, ⟨rLibName, .str l.name⟩, ⟨rUnits, .reals [l.units.1, l.units.2]⟩]
      : List Rec) ++ l.structs.flatMap structRecs).all notEnd = true := by
    simp [List.all_flatMap, structRecs, elemRecs_all_notEnd, notEnd, gdsrec]
  simpa [notEnd, gdsrec] using List.all_eq_true.1 this r hr

end L21.Gds
