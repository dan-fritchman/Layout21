import L21.Model.GdsLazy
import L21.Proofs.ListFacts
/-
The list reader one record at a time.  The body of the loop `parseElem` classifies the head record (`elemAct`, shared
with the lazy reader) and continues; what is proved about the loop goes through the step equation `parseElem_step` and
the five cases of `Act` instead of the seventeen arms.  The budgets of the three loops are never exhausted.
-/
namespace L21.Gds

theorem parseStransTail_length (s : Strans) (rs : List Rec) : (parseStransTail s rs).2.length ≤ rs.length := by
  fun_induction parseStransTail s rs with
  | case1 s m rest ih => exact Nat.le_succ_of_le ih
  | case2 s a rest ih => exact Nat.le_succ_of_le ih
  | case3 => exact Nat.le_refl _

theorem parseStransTail_stop (s : Strans) (r : Rec) (rs : List Rec) (h : (r.rt != 27 && r.rt != 28) = true) :
    parseStransTail s (r :: rs) = (s, r :: rs) := by
  unfold parseStransTail
  split
  · rename_i e; cases e; cases h
  · rename_i e; cases e; cases h
  · rfl

/-- the PROPATTR arm: a PROPVALUE must follow -/
def propOf (k : EK) (f : Nat) (b : B) (attr : Int) : List Rec → Out (Elem × List Rec)
  | ⟨44, .str v⟩ :: rest' => parseElem k f { b with props := b.props ++ [⟨attr, v⟩] } rest'
  | _ => .err

theorem propOf_eq_err {k : EK} {f : Nat} {b : B} {attr : Int} {rs : List Rec} (h : ∀ v rest, rs ≠ ⟨44, .str v⟩ :: rest) :
    propOf k f b attr rs = .err := by
  unfold propOf; split
  · exact absurd rfl (h _ _)
  · rfl

/-- what the list parser does after classifying the record -/
def stepOf (k : EK) (f : Nat) (b : B) (rest : List Rec) : Act → Out (Elem × List Rec)
  | .done => (match build k b with | .ok e => .ok (e, rest) | .err => .err)
  | .upd b' => parseElem k f b' rest
  | .prop attr => propOf k f b attr rest
  | .strans d0 d1 =>
    parseElem k f { b with strans := some (parseStransTail (mkStrans d0 d1) rest).1 } (parseStransTail (mkStrans d0 d1) rest).2
  | .bad => .err

theorem stepOf_guard {k : EK} {f : Nat} {b : B} {rest : List Rec} {c : Prop} [Decidable c] {a : Act} {x : Out (Elem × List Rec)}
    (h : x = if c then stepOf k f b rest a else .err) : x = stepOf k f b rest (if c then a else .bad) := by
  rw [h]; split <;> rfl

/-- `h_n` is the n-th arm of `elemAct`; `parseElem` has the same patterns in the same order, so on a concrete record it
    reduces to its own n-th arm by evaluation.  The STRANS arm (7) of `parseElem` re-checks that `parse_strans` did not
    lengthen the list; it never does, so `stepOf` has no such branch.  The two catch-all arms need `parseElem`'s
    equations under the hypotheses that no earlier pattern matched. -/
theorem parseElem_step (k : EK) (f : Nat) (b : B) (r : Rec) (rest : List Rec) :
    parseElem k (f + 1) b (r :: rest) = stepOf k f b rest (elemAct k b r) := by
  unfold elemAct
  split
  case h_1 | h_4 | h_5 | h_6 => rfl
  case h_2 | h_3 | h_8 | h_9 | h_10 | h_11 | h_12 | h_13 | h_14 | h_15 => exact stepOf_guard rfl
  case h_7 => exact stepOf_guard (ite_congr rfl (fun _ => if_pos (parseStransTail_length _ _)) (fun _ => rfl))
  case h_16 => simp only [parseElem, *]; exact stepOf_guard rfl
  case h_17 => simp only [parseElem, *]; rfl

theorem parseElem_fuel (k : EK) : ∀ (f : Nat) (b : B) (rs : List Rec), rs.length < f → parseElem k f b rs = parseElem k (f + 1) b rs := by
  intro f
  induction f with
  | zero => intro b rs h; omega
  | succ f ih =>
    intro b rs h
    cases rs with
    | nil => rfl
    | cons r rest =>
      simp only [List.length_cons] at h
      rw [parseElem_step, parseElem_step]
      cases elemAct k b r with
      | done | bad => rfl
      | upd b' => exact ih _ _ (by omega)
      | strans d0 d1 => exact ih _ _ (by have := parseStransTail_length (mkStrans d0 d1) rest; omega)
      | prop a =>
        show propOf k f b a rest = propOf k (f + 1) b a rest
        unfold propOf
        split
        · exact ih _ _ (by simp only [List.length_cons] at h; omega)
        · rfl

theorem parseElem_fuel_le (k : EK) (b : B) (rs : List Rec) {f : Nat} (h : rs.length < f) :
    parseElem k f b rs = parseElem k (rs.length + 1) b rs :=
  const_above (parseElem k · b rs) _ (fun f hf => parseElem_fuel k f b rs hf) h

/-- `parseElem` with the budget `parseElems` gives it -/
def runElem (k : EK) (b : B) (rs : List Rec) : Out (Elem × List Rec) := parseElem k (rs.length + 1) b rs

theorem runElem_upd {k : EK} {b b' : B} {r : Rec} (rest : List Rec) (h : elemAct k b r = .upd b') :
    runElem k b (r :: rest) = runElem k b' rest := by
  unfold runElem; rw [List.length_cons, parseElem_step, h]; rfl

theorem runElem_done (k : EK) (b : B) (rest : List Rec) :
    runElem k b (⟨17, .none⟩ :: rest) = match build k b with | .ok e => .ok (e, rest) | .err => .err := by
  unfold runElem; rw [List.length_cons, parseElem_step]; rfl

theorem runElem_prop (k : EK) (b : B) (a : Int) (v : Bytes) (rest : List Rec) :
    runElem k b (⟨43, .ints [a]⟩ :: ⟨44, .str v⟩ :: rest) = runElem k { b with props := b.props ++ [⟨a, v⟩] } rest := by
  unfold runElem; rw [List.length_cons, parseElem_step]
  exact (parseElem_fuel k _ _ _ (Nat.lt_succ_self _)).symm

theorem runElem_strans {k : EK} (b : B) (d0 d1 : Nat) (rest : List Rec) (hk : (k == .sref || k == .aref || k == .text) = true) :
    runElem k b (⟨26, .bits d0 d1⟩ :: rest) =
      runElem k { b with strans := some (parseStransTail (mkStrans d0 d1) rest).1 } (parseStransTail (mkStrans d0 d1) rest).2 := by
  unfold runElem; rw [List.length_cons, parseElem_step]
  have : elemAct k b ⟨26, .bits d0 d1⟩ = .strans d0 d1 := if_pos hk
  rw [this]
  exact parseElem_fuel_le k _ _ (Nat.lt_succ_of_le (parseStransTail_length _ _))

/-! ### the struct and library loops

Proofs about `parseElems` and `parseLibBody` go by functional induction, one case per path through the loop body: arms
in source order, a nested `match` / `if` taking consecutive numbers (`#check @parseLibBody.induct` prints them; the
lazy twins' numbers: head of GdsLazy).  `parseElems`: 1 no budget,
2 no record, 3 ENDSTR, 4 not an element header, 5 the element fails, 6 / 7 it is read and the defensive length test
passes / fails.  `parseLibBody`: 1 no budget, 2 no record, 3 / 4 ENDLIB with / without name and units set, 5 LIBNAME,
6 UNITS, 7 BGNSTR STRNAME and the elements fail, 8 / 9 they are read and the length test passes / fails, 10 BGNSTR
without STRNAME, 11 any other record. -/

theorem parseElems_fuel (f : Nat) (acc : List Elem) (rs : List Rec) (h : rs.length < f) :
    parseElems f acc rs = parseElems (f + 1) acc rs := by
  fun_induction parseElems f acc rs
  case case1 => omega
  case case2 => rfl
  all_goals rw [parseElems]; simp only [List.length_cons] at h
  case case3 hend => rw [if_pos hend]
  case case4 hend hk => rw [if_neg hend, hk]
  case case5 hend k hk he => rw [if_neg hend, hk]; simp only [he]
  case case6 hend k hk e rest' he hlt ih => rw [if_neg hend, hk]; simp only [he]; rw [if_pos hlt]; exact ih (by omega)
  case case7 hend k hk e rest' he hlt => rw [if_neg hend, hk]; simp only [he]; rw [if_neg hlt]

theorem parseLibBody_fuel (v : Int) (d : List Int) (f : Nat) (lb : LB) (rs : List Rec) (h : rs.length < f) :
    parseLibBody v d f lb rs = parseLibBody v d (f + 1) lb rs := by
  fun_induction parseLibBody v d f lb rs
  case case1 => omega
  case case2 => rfl
  case case10 | case11 => rw [parseLibBody] <;> assumption
  all_goals rw [parseLibBody]; simp only [List.length_cons] at h
  case case3 hu hn => rw [hn, hu]
  case case4 hno => split; exact (hno _ _ ‹_› ‹_›).elim; rfl
  case case5 ih | case6 ih => exact ih (by omega)
  case case7 hes => simp only [hes]
  case case8 hes hlt ih => simp only [hes]; rw [if_pos hlt, if_pos hlt]; exact ih (by simp only [List.length_cons] at hlt; omega)
  case case9 hes hlt => simp only [hes]; rw [if_neg hlt, if_neg hlt]

theorem parseElems_fuel_le (acc : List Elem) (rs : List Rec) {f : Nat} (h : rs.length < f) :
    parseElems f acc rs = parseElems (rs.length + 1) acc rs :=
  const_above (parseElems · acc rs) _ (fun f hf => parseElems_fuel f acc rs hf) h

theorem parseLibBody_fuel_le (v : Int) (d : List Int) (lb : LB) (rs : List Rec) {f : Nat} (h : rs.length < f) :
    parseLibBody v d f lb rs = parseLibBody v d (rs.length + 1) lb rs :=
  const_above (parseLibBody v d · lb rs) _ (fun f hf => parseLibBody_fuel v d f lb rs hf) h

/-- 2, 3, 4, 5: LIBNAME, UNITS, ENDLIB, BGNSTR -/
theorem parseLibBody_other (rt : Nat) (pl : Payload) (h : rt ≠ 2 ∧ rt ≠ 3 ∧ rt ≠ 4 ∧ rt ≠ 5)
    (v : Int) (d : List Int) (fuel : Nat) (lb : LB) (rest : List Rec) :
    parseLibBody v d fuel lb (⟨rt, pl⟩ :: rest) = .err := by
  cases fuel with
  | zero => rfl
  | succ f => rw [parseLibBody] <;> (intros; injections; omega)  -- the catch-all equation: a side goal per earlier pattern

/-- a record list that does not begin with HEADER is refused; `parseLib_not1`: nor one without BGNLIB behind it -/
theorem parseLib_not0 (r : Rec) (rs : List Rec) (h : ∀ v, r ≠ ⟨0, .ints [v]⟩) : parseLib (r :: rs) = .err := by
  rw [parseLib]; exact fun v _ _ e => h v (List.cons.inj e).1

theorem parseLib_not1 (r0 r : Rec) (rs : List Rec) (h : ∀ d, r ≠ ⟨1, .ints d⟩) : parseLib (r0 :: r :: rs) = .err := by
  rw [parseLib]; exact fun _ d _ e => h d (List.cons.inj (List.cons.inj e).2).1

theorem parseLib_single (r : Rec) : parseLib [r] = .err := by
  rw [parseLib]; exact fun _ _ _ e => nomatch (List.cons.inj e).2

end L21.Gds
