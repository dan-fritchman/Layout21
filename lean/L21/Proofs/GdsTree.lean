import L21.Proofs.GdsStep
import L21.Proofs.GdsRecs
/-
Tree level of the GDSII round trip: the reader's record-level state machine (`parseLib`) applied to the record list the
writer produces (`libRecs`) returns the library.
-/
namespace L21.Gds

theorem runElem_props (k : EK) (rest : List Rec) : ∀ (ps : List Property) (b : B),
    runElem k b (propRecs ps ++ ⟨rEndElement, .none⟩ :: rest) =
      (match build k { b with props := b.props ++ ps } with | .ok e => .ok (e, rest) | .err => .err) := by
  intro ps
  induction ps with
  | nil => intro b; rw [List.append_nil]; exact runElem_done k b rest
  | cons p r ih =>
    intro b
    have := ih { b with props := b.props ++ [p] }
    rw [List.append_assoc] at this
    exact (runElem_prop k b p.attr p.value _).trans this

theorem runElem_optRec {α : Type} {k : EK} {rt : Nat} {mk : α → Payload} {b : B} (bo : Option α → B) (o : Option α)
    (rest : List Rec) (h0 : bo none = b) (h : ∀ a, elemAct k b ⟨rt, mk a⟩ = .upd (bo (some a))) :
    runElem k b (optRec rt mk o ++ rest) = runElem k (bo o) rest := by
  cases o with
  | none => rw [h0]; rfl
  | some a => exact runElem_upd rest (h a)

theorem mkStrans_flags (r am aa : Bool) :
    mkStrans (if r then 128 else 0) ((if am then 4 else 0) + (if aa then 2 else 0)) = ⟨r, am, aa, none, none⟩ := by
  cases r <;> cases am <;> cases aa <;> rfl

theorem parseStransTail_opt {rf am aa : Bool} {mag angle : Option Nat} {nx : Rec} {rest : List Rec} (hnx : (nx.rt != 27 && nx.rt != 28) = true) :
    parseStransTail ⟨rf, am, aa, none, none⟩
      (optRec rMag (fun m => .reals [m]) mag ++ (optRec rAngle (fun a => .reals [a]) angle ++ nx :: rest)) =
      (⟨rf, am, aa, mag, angle⟩, nx :: rest) := by
  have stop := parseStransTail_stop (r := nx) (rs := rest) (h := hnx)
  cases mag <;> cases angle <;> simp only [optRec, List.nil_append, List.cons_append, gdsrec, parseStransTail, stop]

theorem runElem_optStrans {k : EK} {b : B} (o : Option Strans) (nx : Rec) (rest : List Rec)
    (hk : (k == .sref || k == .aref || k == .text) = true) (hb : { b with strans := none } = b) (hnx : (nx.rt != 27 && nx.rt != 28) = true) :
    runElem k b (optStrans o ++ nx :: rest) = runElem k { b with strans := o } (nx :: rest) := by
  cases o with
  | none => rw [hb]; rfl
  | some s =>
    simp only [optStrans, stransRecs, List.append_assoc, List.cons_append, List.nil_append, rStrans]
    rw [runElem_strans b _ _ _ hk, mkStrans_flags, parseStransTail_opt hnx]

section optional
variable {k : EK} {b : B} (rest : List Rec)

theorem runElem_elflags (o : Option (Nat × Nat)) (hb : { b with elflags := none } = b) :
    runElem k b (optRec rElemFlags (fun (e : Nat × Nat) => Payload.bits e.1 e.2) o ++ rest) = runElem k { b with elflags := o } rest :=
  runElem_optRec (fun o => { b with elflags := o }) o rest hb (fun _ => rfl)

theorem runElem_plex (o : Option Int) (hb : { b with plex := none } = b) :
    runElem k b (optRec rPlex int1 o ++ rest) = runElem k { b with plex := o } rest :=
  runElem_optRec (fun o => { b with plex := o }) o rest hb (fun _ => rfl)

theorem runElem_pathType (o : Option Int) (hk : (k == .path || k == .text) = true) (hb : { b with pathType := none } = b) :
    runElem k b (optRec rPathType int1 o ++ rest) = runElem k { b with pathType := o } rest :=
  runElem_optRec (fun o => { b with pathType := o }) o rest hb (fun _ => if_pos hk)

theorem runElem_width (o : Option Int) (hk : (k == .path || k == .text) = true) (hb : { b with width := none } = b) :
    runElem k b (optRec rWidth int1 o ++ rest) = runElem k { b with width := o } rest :=
  runElem_optRec (fun o => { b with width := o }) o rest hb (fun _ => if_pos hk)

theorem runElem_beginExtn (o : Option Int) (hk : (k == .path) = true) (hb : { b with beginExtn := none } = b) :
    runElem k b (optRec rBeginExtn int1 o ++ rest) = runElem k { b with beginExtn := o } rest :=
  runElem_optRec (fun o => { b with beginExtn := o }) o rest hb (fun _ => if_pos hk)

theorem runElem_endExtn (o : Option Int) (hk : (k == .path) = true) (hb : { b with endExtn := none } = b) :
    runElem k b (optRec rEndExtn int1 o ++ rest) = runElem k { b with endExtn := o } rest :=
  runElem_optRec (fun o => { b with endExtn := o }) o rest hb (fun _ => if_pos hk)

theorem runElem_presentation (o : Option (Nat × Nat)) (hk : (k == .text) = true) (hb : { b with presentation := none } = b) :
    runElem k b (optRec rPresentation (fun (e : Nat × Nat) => Payload.bits e.1 e.2) o ++ rest) = runElem k { b with presentation := o } rest :=
  runElem_optRec (fun o => { b with presentation := o }) o rest hb (fun _ => if_pos hk)

theorem runElem_xy (l : List Int) (h : xyOk k l = true) : runElem k b (⟨rXy, .ints l⟩ :: rest) = runElem k { b with xy := some l } rest :=
  runElem_upd rest (if_pos h)

end optional

theorem runElem_common (k : EK) (c : Common) (rest : List Rec) :
    runElem k {} (commonHead c ++ rest) = runElem k { elflags := c.elflags, plex := c.plex } rest := by
  unfold commonHead
  rw [List.append_assoc, runElem_elflags _ _ rfl, runElem_plex _ _ rfl]

theorem runElem_tailRecs (e : Elem) (rest : List Rec) (h : elemOk e = true) :
    runElem (kindOf e) {} (tailRecs e ++ rest) = .ok (e, rest) := by
  unfold tailRecs
  rw [List.append_assoc, runElem_common, List.append_assoc, List.append_assoc, List.singleton_append]
  cases e <;>
    simp only [elemMid, kindOf, elemCommon, elemOk, List.append_assoc, List.cons_append, List.nil_append] at h ⊢
  case boundary | node | box => rw [runElem_upd _ rfl, runElem_upd _ rfl, runElem_xy _ _ h, runElem_props]; rfl
  case path =>
    rw [runElem_upd _ rfl, runElem_upd _ rfl, runElem_pathType _ _ rfl rfl, runElem_width _ _ rfl rfl, runElem_beginExtn _ _ rfl rfl,
      runElem_endExtn _ _ rfl rfl, runElem_xy _ _ h, runElem_props]; rfl
  case sref => rw [runElem_upd _ rfl, runElem_optStrans _ _ _ rfl rfl rfl, runElem_xy _ _ h, runElem_props]; rfl
  case aref =>
    rw [runElem_upd _ rfl, runElem_optStrans _ _ _ rfl rfl rfl, runElem_upd _ rfl, runElem_xy _ _ h, runElem_props]; rfl
  case text =>
    rw [runElem_upd _ rfl, runElem_upd _ rfl, runElem_presentation _ _ rfl rfl, runElem_pathType _ _ rfl rfl, runElem_width _ _ rfl rfl,
      runElem_optStrans _ _ _ rfl rfl rfl, runElem_xy _ _ h, runElem_upd _ rfl, runElem_props]; rfl

theorem elemKind_header (e : Elem) : elemKind (headerRec e).rt = some (kindOf e) ∧
    ¬ ((headerRec e).rt = rEndStruct ∧ (headerRec e).pl = .none) := by
  cases e <;> exact ⟨rfl, fun h => by cases h.1⟩

theorem parseElems_step (f : Nat) (acc : List Elem) (e : Elem) (T : List Rec) (he : elemOk e = true) :
    parseElems (f + 1) acc (elemRecs e ++ T) = parseElems f (acc ++ [e]) T := by
  obtain ⟨hk, hne⟩ := elemKind_header e
  have pt := runElem_tailRecs e T he
  unfold runElem at pt
  rw [elemRecs_cons, List.cons_append, parseElems, if_neg hne, hk]
  simp only [pt]
  rw [if_pos (by simp only [List.length_append]; omega)]

theorem parseElems_all (es acc : List Elem) (rest : List Rec) (f : Nat) (hf : es.length + 1 ≤ f)
    (hok : es.all elemOk = true) :
    parseElems f acc (es.flatMap elemRecs ++ ⟨rEndStruct, .none⟩ :: rest) = .ok (acc ++ es, rest) := by
  rw [← foldl_snoc es acc]
  exact loop_stop_any parseElems_step _ (fun acc => .ok (acc, rest)) (fun f s => by simp [parseElems, gdsrec]) es acc hf hok

theorem parseLibBody_step (v : Int) (d : List Int) (f : Nat) (lb : LB) (s : Struct) (T : List Rec) (hs : structOk s = true) :
    parseLibBody v d (f + 1) lb (structRecs s ++ T) = parseLibBody v d f { lb with structs := lb.structs ++ [s] } T := by
  have hlen := flatMap_elemRecs_length s.elems
  rw [structRecs, List.append_assoc, List.append_assoc]
  show parseLibBody v d (f + 1) lb (⟨5, .ints s.dates⟩ :: ⟨6, .str s.name⟩ ::
    (s.elems.flatMap elemRecs ++ ⟨rEndStruct, .none⟩ :: T)) = _
  rw [parseLibBody, parseElems_all s.elems [] _ _ (by simp only [List.length_append, List.length_cons]; omega) hs]
  simp only [List.length_append, List.length_cons, List.nil_append]
  rw [if_pos (by omega)]

theorem parseLibBody_structs (v : Int) (d : List Int) (t : List Rec) (ss : List Struct) (lb : LB) (f : Nat)
    (hf : ss.length + 1 ≤ f) (hok : ss.all structOk = true) :
    parseLibBody v d f lb (ss.flatMap structRecs ++ ⟨rEndLib, .none⟩ :: t) =
      (match lb.name, lb.units with
       | some n, some u => .ok ⟨n, v, d, u, lb.structs ++ ss⟩
       | _, _ => .err) := by
  rw [loop_stop_any (parseLibBody_step v d) _ _ (fun f lb => rfl) ss lb hf hok,
    foldl_collect _ (fun l => ({ lb with structs := l } : LB)) ss (fun _ _ _ => rfl) lb.structs]
  rfl

/-- Tree level (obligation of C01): `GdsParser::parse_lib … parse_strans` on the records of `encode_lib … encode_strans`
    returns the library (`libOk`: boundary/path/node coordinates in pairs; sref/text one point; aref three; box five). -/
theorem c01_tree_roundtrip (l : Library) (h : libOk l = true) : parseLib (libRecs l) = .ok l := by
  have hlen := flatMap_structRecs_length l.structs
  rw [libRecs, List.append_assoc]
  show parseLibBody l.version l.dates ((l.structs.flatMap structRecs ++ [(⟨rEndLib, .none⟩ : Rec)]).length + 1 + 1 + 1) {}
    (⟨2, .str l.name⟩ :: ⟨3, .reals [l.units.1, l.units.2]⟩ :: (l.structs.flatMap structRecs ++ [⟨rEndLib, .none⟩])) = _
  rw [parseLibBody, parseLibBody, parseLibBody_structs l.version l.dates [] l.structs _ _
    (by rw [List.length_append]; omega) h]
  rfl

end L21.Gds
