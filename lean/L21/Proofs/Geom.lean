import L21.Model.Geom
/-
C13, the polygon query.  A point outside the bounding box of the vertex list has winding number 0 and lies on no edge, so the
shortcut in `polyContains` changes no answer.  `InClosed` sees the vertex list only through its edges, as a multiset and up to
reversing all of them: hence the same answer for every starting vertex, either orientation, and vertices repeated in a row.
-/
namespace L21.Geom

theorem mem_bbox : ∀ {P : List Pt} {v : Pt}, v ∈ P → (minX P ≤ v.x ∧ v.x ≤ maxX P) ∧ minY P ≤ v.y ∧ v.y ≤ maxY P
  | [a], v, h => by
    rw [List.mem_singleton.1 h]
    exact ⟨⟨Int.le_refl _, Int.le_refl _⟩, Int.le_refl _, Int.le_refl _⟩
  | a :: b :: r, v, h => by
    rcases List.mem_cons.1 h with rfl | h'
    · exact ⟨⟨Int.min_le_left .., Int.le_max_left ..⟩, Int.min_le_left .., Int.le_max_left ..⟩
    · obtain ⟨⟨x0, x1⟩, y0, y1⟩ := mem_bbox h'
      exact ⟨⟨Int.le_trans (Int.min_le_right ..) x0, Int.le_trans x1 (Int.le_max_right ..)⟩,
        Int.le_trans (Int.min_le_right ..) y0, Int.le_trans y1 (Int.le_max_right ..)⟩

theorem minX_le {P : List Pt} {v : Pt} (h : v ∈ P) : minX P ≤ v.x := (mem_bbox h).1.1
theorem le_maxX {P : List Pt} {v : Pt} (h : v ∈ P) : v.x ≤ maxX P := (mem_bbox h).1.2
theorem minY_le {P : List Pt} {v : Pt} (h : v ∈ P) : minY P ≤ v.y := (mem_bbox h).2.1
theorem le_maxY {P : List Pt} {v : Pt} (h : v ∈ P) : v.y ≤ maxY P := (mem_bbox h).2.2

/-! ### edges of the closed chain: the vertex list zipped with its rotation by one -/

theorem edgesFrom_zip (f : Pt) : ∀ (l : List Pt) (x : Pt), edgesFrom f (x :: l) = List.zip (x :: l) (l ++ [f])
  | [], _ => rfl
  | y :: l, _ => by simp only [edgesFrom, edgesFrom_zip f l y]; rfl

theorem edges_cons (a : Pt) (l : List Pt) : edges (a :: l) = List.zip (a :: l) (l ++ [a]) := edgesFrom_zip a l a

theorem edges_mem {P : List Pt} {e : Pt × Pt} (h : e ∈ edges P) : e.1 ∈ P ∧ e.2 ∈ P := by
  cases P with
  | nil => cases h
  | cons a l =>
    rw [edges_cons] at h
    have := List.of_mem_zip (a := e.1) (b := e.2) h
    exact ⟨this.1, (List.perm_append_singleton a l).mem_iff.1 this.2⟩

theorem edges_map_fst (P : List Pt) : (edges P).map Prod.fst = P := by
  cases P with
  | nil => rfl
  | cons a l => rw [edges_cons, List.map_fst_zip (by simp)]

theorem cross_swap (a b p : Pt) : cross b a p = - cross a b p := by unfold cross; grind
theorem cross_self_left (a b : Pt) : cross a b a = 0 := by simp only [cross, Int.sub_self, Int.mul_zero]
theorem cross_self_right (a b : Pt) : cross a b b = 0 := by unfold cross; rw [Int.mul_comm, Int.sub_self]

theorem Pt.ext' {p q : Pt} (hx : p.x = q.x) (hy : p.y = q.y) : p = q := by
  cases p; cases q; simp only [Pt.mk.injEq]; exact ⟨hx, hy⟩

theorem onSeg_iff (a b p : Pt) : onSeg a b p = true ↔
    cross a b p = 0 ∧ min a.x b.x ≤ p.x ∧ p.x ≤ max a.x b.x ∧ min a.y b.y ≤ p.y ∧ p.y ≤ max a.y b.y := by
  simp only [onSeg, Bool.and_eq_true, decide_eq_true_eq, and_assoc]

theorem onSeg_swap (a b p : Pt) : onSeg b a p = onSeg a b p := by
  unfold onSeg
  rw [cross_swap]
  simp only [Int.min_comm b.x a.x, Int.max_comm b.x a.x, Int.min_comm b.y a.y, Int.max_comm b.y a.y, Int.neg_eq_zero]

theorem onSeg_self_left (a b : Pt) : onSeg a b a = true :=
  (onSeg_iff a b a).2 ⟨cross_self_left a b, Int.min_le_left .., Int.le_max_left .., Int.min_le_left .., Int.le_max_left ..⟩

theorem eq_of_onSeg_self {a p : Pt} (h : onSeg a a p = true) : p = a := by
  obtain ⟨_, h1, h2, h3, h4⟩ := (onSeg_iff a a p).1 h
  rw [Int.min_self] at h1 h3
  rw [Int.max_self] at h2 h4
  exact Pt.ext' (Int.le_antisymm h2 h1) (Int.le_antisymm h4 h3)

theorem onBoundary_vertex {P : List Pt} {v : Pt} (hv : v ∈ P) : onBoundary P v = true := by
  rw [← edges_map_fst P] at hv
  obtain ⟨e, he, rfl⟩ := List.mem_map.1 hv
  exact List.any_eq_true.2 ⟨e, he, onSeg_self_left _ _⟩

theorem onSeg_in_bbox {P : List Pt} {e : Pt × Pt} {p : Pt} (he : e ∈ edges P) (h : onSeg e.1 e.2 p = true) :
    inBBox P p = true := by
  obtain ⟨m1, m2⟩ := edges_mem he
  obtain ⟨_, h1, h2, h3, h4⟩ := (onSeg_iff _ _ _).1 h
  cases P with
  | nil => cases he
  | cons a rest =>
    simp only [inBBox, Bool.and_eq_true, decide_eq_true_eq]
    exact ⟨⟨⟨Int.le_trans (Int.le_min.2 ⟨minX_le m1, minX_le m2⟩) h1, Int.le_trans h2 (Int.max_le.2 ⟨le_maxX m1, le_maxX m2⟩)⟩,
      Int.le_trans (Int.le_min.2 ⟨minY_le m1, minY_le m2⟩) h3⟩, Int.le_trans h4 (Int.max_le.2 ⟨le_maxY m1, le_maxY m2⟩)⟩

/-! ### `edgeW` case by case; a downward edge is the reverse of an upward one -/

theorem cross_eq (a b p : Pt) :
    cross a b p = (b.x - p.x) * (p.y - a.y) + (b.y - p.y) * (a.x - p.x) := by
  unfold cross; grind

theorem cross_pos_left {a b p : Pt} (h1 : a.y ≤ p.y) (h2 : p.y < b.y) (ha : p.x < a.x) (hb : p.x < b.x) :
    0 < cross a b p := by
  rw [cross_eq]
  exact Int.add_pos_of_nonneg_of_pos (Int.mul_nonneg (by omega) (by omega)) (Int.mul_pos (by omega) (by omega))

theorem cross_neg_right {a b p : Pt} (h1 : a.y ≤ p.y) (h2 : p.y < b.y) (ha : a.x < p.x) (hb : b.x < p.x) :
    cross a b p < 0 := by
  rw [cross_eq]
  exact Int.add_neg_of_nonpos_of_neg (Int.mul_nonpos_of_nonpos_of_nonneg (by omega) (by omega))
    (Int.mul_neg_of_pos_of_neg (by omega) (by omega))

theorem edgeW_up {a b p : Pt} (h : a.y ≤ p.y ∧ p.y < b.y) : edgeW a b p = if 0 < cross a b p then 1 else 0 := by
  unfold edgeW; rw [if_pos h]

theorem edgeW_zero {a b p : Pt} (h1 : ¬ (a.y ≤ p.y ∧ p.y < b.y)) (h2 : ¬ (b.y ≤ p.y ∧ p.y < a.y)) :
    edgeW a b p = 0 := by
  unfold edgeW; rw [if_neg h1, if_neg h2]

theorem edgeW_horiz {a b : Pt} (h : a.y = b.y) (p : Pt) : edgeW a b p = 0 := edgeW_zero (by omega) (by omega)

theorem edgeW_swap (a b p : Pt) : edgeW b a p = - edgeW a b p := by
  have hd : ∀ {a b : Pt}, a.y ≤ p.y ∧ p.y < b.y → edgeW b a p = - edgeW a b p := fun {a b} h => by
    rw [edgeW_up h, edgeW, if_neg (by omega), if_pos h, cross_swap]
    simp only [Int.neg_neg_iff_pos]
    split <;> rfl
  by_cases h1 : a.y ≤ p.y ∧ p.y < b.y
  · exact hd h1
  · by_cases h2 : b.y ≤ p.y ∧ p.y < a.y
    · rw [hd h2, Int.neg_neg]
    · rw [edgeW_zero h1 h2, edgeW_zero h2 h1]; rfl

/-- Left of both its end points an edge counts `below` at its start minus `below` at its end
    (`edgeW_left`), so along the closed chain the winding number of a point left of every vertex
    telescopes to 0. -/
def below (p v : Pt) : Int := if v.y ≤ p.y then 1 else 0

theorem edgeW_left {a b p : Pt} (ha : p.x < a.x) (hb : p.x < b.x) : edgeW a b p = below p a - below p b := by
  have hu : ∀ {a b : Pt}, a.y ≤ p.y ∧ p.y < b.y → p.x < a.x → p.x < b.x → edgeW a b p = below p a - below p b :=
    fun {a b} h ha hb => by
      rw [edgeW_up h, if_pos (cross_pos_left h.1 h.2 ha hb), below, below, if_pos h.1, if_neg (by omega)]; rfl
  by_cases c1 : a.y ≤ p.y ∧ p.y < b.y
  · exact hu c1 ha hb
  · by_cases c2 : b.y ≤ p.y ∧ p.y < a.y
    · rw [edgeW_swap b a, hu c2 hb ha, Int.neg_sub]
    · rw [edgeW_zero c1 c2, below, below]
      by_cases e1 : a.y ≤ p.y
      · rw [if_pos e1, if_pos (by omega)]; rfl
      · rw [if_neg e1, if_neg (by omega)]; rfl

theorem edgeW_right {a b p : Pt} (ha : a.x < p.x) (hb : b.x < p.x) : edgeW a b p = 0 := by
  have hu : ∀ {a b : Pt}, a.y ≤ p.y ∧ p.y < b.y → a.x < p.x → b.x < p.x → edgeW a b p = 0 :=
    fun {a b} h ha hb => by rw [edgeW_up h, if_neg (Int.lt_asymm (cross_neg_right h.1 h.2 ha hb))]
  by_cases c1 : a.y ≤ p.y ∧ p.y < b.y
  · exact hu c1 ha hb
  · by_cases c2 : b.y ≤ p.y ∧ p.y < a.y
    · rw [edgeW_swap b a, hu c2 hb ha]; rfl
    · exact edgeW_zero c1 c2

theorem sum_telescope (p first : Pt) : ∀ (rest : List Pt) (a : Pt),
    ((edgesFrom first (a :: rest)).map (fun e => below p e.1 - below p e.2)).sum = below p a - below p first
  | [], a => by simp [edgesFrom]
  | b :: r, a => by
    simp only [edgesFrom, List.map_cons, List.sum_cons]
    rw [sum_telescope p first r b]; omega

theorem wn_left {P : List Pt} {p : Pt} (h : ∀ v ∈ P, p.x < v.x) : wn P p = 0 := by
  cases P with
  | nil => rfl
  | cons a rest =>
    have hcongr : (edges (a :: rest)).map (fun e => edgeW e.1 e.2 p)
        = (edges (a :: rest)).map (fun e => below p e.1 - below p e.2) :=
      List.map_congr_left fun e he => edgeW_left (h _ (edges_mem he).1) (h _ (edges_mem he).2)
    rw [wn, hcongr, edges, sum_telescope p a rest a, Int.sub_self]

theorem wn_zero_of_all {P : List Pt} {p : Pt} (h : ∀ e ∈ edges P, edgeW e.1 e.2 p = 0) : wn P p = 0 := by
  rw [wn, List.map_congr_left h, List.map_const', List.sum_replicate_int, Int.mul_zero]

theorem wn_outside {P : List Pt} {p : Pt} (hb : inBBox P p = false) : wn P p = 0 := by
  cases P with
  | nil => rfl
  | cons a rest =>
    simp only [inBBox, Bool.and_eq_false_iff, decide_eq_false_iff_not] at hb
    rcases hb with ((hb | hb) | hb) | hb
    · apply wn_left
      intro v hv; have := minX_le hv; omega
    · apply wn_zero_of_all
      intro e he; have := edges_mem he
      have h1 := le_maxX this.1; have h2 := le_maxX this.2
      exact edgeW_right (by omega) (by omega)
    · apply wn_zero_of_all
      intro e he; have := edges_mem he
      have h1 := minY_le this.1; have h2 := minY_le this.2
      exact edgeW_zero (by omega) (by omega)
    · apply wn_zero_of_all
      intro e he; have := edges_mem he
      have h1 := le_maxY this.1; have h2 := le_maxY this.2
      exact edgeW_zero (by omega) (by omega)

def InClosed (P : List Pt) (p : Pt) : Prop := onBoundary P p = true ∨ wn P p ≠ 0

open List

/-- the quantities `InClosed` is made of, for an arbitrary list of edges -/
def wnE (es : List (Pt × Pt)) (p : Pt) : Int := (es.map (fun e => edgeW e.1 e.2 p)).sum
def bdE (es : List (Pt × Pt)) (p : Pt) : Bool := es.any (fun e => onSeg e.1 e.2 p)
def InClosedE (es : List (Pt × Pt)) (p : Pt) : Prop := bdE es p = true ∨ wnE es p ≠ 0

theorem InClosed_iff (P : List Pt) (p : Pt) : InClosed P p ↔ InClosedE (edges P) p := Iff.rfl

theorem wnE_cons (a b : Pt) (es : List (Pt × Pt)) (p : Pt) : wnE ((a, b) :: es) p = edgeW a b p + wnE es p := rfl
theorem bdE_cons (a b : Pt) (es : List (Pt × Pt)) (p : Pt) : bdE ((a, b) :: es) p = (onSeg a b p || bdE es p) := rfl

theorem InClosedE_perm {es es' : List (Pt × Pt)} (h : es ~ es') (p : Pt) : InClosedE es p ↔ InClosedE es' p := by
  -- `List.sum` is a `foldr` of `+`
  have hw : wnE es p = wnE es' p := (h.map _).foldr_eq' (f := (· + ·)) (fun a _ b _ c => Int.add_left_comm b a c) 0
  rw [InClosedE, InClosedE, hw, bdE, bdE, h.any_eq]

theorem edges_rotate1 (a : Pt) (l : List Pt) : edges (l ++ [a]) ~ edges (a :: l) := by
  cases l with
  | nil => exact .refl _
  | cons b l' =>
    rw [cons_append, edges_cons, ← cons_append, zip_append (by simp), edges_cons]
    exact perm_append_comm

theorem edges_rotate (l1 l2 : List Pt) : edges (l2 ++ l1) ~ edges (l1 ++ l2) := by
  induction l1 generalizing l2 with
  | nil => simp
  | cons a l1' ih =>
    have := (ih (l2 ++ [a])).trans (append_assoc l1' l2 [a] ▸ edges_rotate1 a (l1' ++ l2))
    rwa [append_assoc] at this

theorem InClosed_rotate (l1 l2 : List Pt) (p : Pt) : InClosed (l2 ++ l1) p ↔ InClosed (l1 ++ l2) p :=
  InClosedE_perm (edges_rotate l1 l2) p

def swapE (e : Pt × Pt) : Pt × Pt := (e.2, e.1)

theorem InClosedE_swap (es : List (Pt × Pt)) (p : Pt) : InClosedE (es.map swapE) p ↔ InClosedE es p := by
  have hw : wnE (es.map swapE) p = - wnE es p := by
    induction es with
    | nil => rfl
    | cons e r ih =>
      simp only [wnE, map_cons, sum_cons, swapE] at ih ⊢
      rw [ih, edgeW_swap]; omega
  rw [InClosedE, hw, Int.neg_ne_zero, bdE, any_map]
  simp only [Function.comp_def, swapE, onSeg_swap]; rfl

theorem edges_reverse (P : List Pt) : edges P.reverse ~ (edges P).map swapE := by
  cases P with
  | nil => exact .refl _
  | cons a l =>
    have h1 : a :: l.reverse = (l ++ [a]).reverse := by simp
    have h2 : l.reverse ++ [a] = (a :: l).reverse := by simp
    rw [reverse_cons]
    refine (edges_rotate1 a l.reverse).trans ?_
    rw [edges_cons, edges_cons, h1, h2, map_zip_eq_zipWith, zip_eq_zipWith, ← reverse_zipWith (by simp), zipWith_comm]
    exact reverse_perm _

theorem InClosed_reverse (P : List Pt) (p : Pt) : InClosed P.reverse p ↔ InClosed P p :=
  (InClosedE_perm (edges_reverse P) p).trans (InClosedE_swap _ p)

theorem InClosed_dup_head (v : Pt) (l : List Pt) (p : Pt) : InClosed (v :: v :: l) p ↔ InClosed (v :: l) p := by
  have he : edges (v :: v :: l) = (v, v) :: edges (v :: l) := rfl
  rw [InClosed_iff, he, InClosedE, wnE_cons, bdE_cons, edgeW_horiz rfl, Int.zero_add, Bool.or_eq_true, or_assoc]
  refine or_iff_right_of_imp fun hs => ?_
  rw [eq_of_onSeg_self hs]
  exact Or.inl (onBoundary_vertex mem_cons_self)

theorem InClosed_dup (l1 l2 : List Pt) (v p : Pt) : InClosed (l1 ++ v :: v :: l2) p ↔ InClosed (l1 ++ v :: l2) p := by
  rw [InClosed_rotate (v :: v :: l2) l1, InClosed_rotate (v :: l2) l1]
  exact InClosed_dup_head v (l2 ++ l1) p

end L21.Geom
