import L21.Proofs.Geom
/-
C13 — a vertex written on an edge (collinear vertex) changes neither the winding number nor the
boundary test: cross-product sign identities for the former, an ordering argument along the
segment for the latter.  Then the four-point polygon `Rect::to_poly` builds: winding number and
boundary of a normalised axis-parallel rectangle.
-/
namespace L21.Geom

/-- `cross u v w` for three points measured against a line `ab` (for `u = a` this is the 2-D triple
    identity `(v' × w') d = (d × w') v' − (d × v') w'`), first and second coordinate -/
theorem cross_line_x (a b u v w : Pt) :
    (b.x - a.x) * cross u v w =
      (v.x - u.x) * (cross a b w - cross a b u) - (w.x - u.x) * (cross a b v - cross a b u) := by
  unfold cross; grind
theorem cross_line_y (a b u v w : Pt) :
    (b.y - a.y) * cross u v w =
      (v.y - u.y) * (cross a b w - cross a b u) - (w.y - u.y) * (cross a b v - cross a b u) := by
  unfold cross; grind
/-- along the line `ab`, `y` is an affine function of `x` -/
theorem cross_slope (a b u w : Pt) :
    (b.x - a.x) * (w.y - u.y) - (b.y - a.y) * (w.x - u.x) = cross a b w - cross a b u := by
  unfold cross; grind

theorem pos_iff_of_mul_eq {c u d v : Int} (hc : 0 < c) (hd : 0 < d) (h : c * u = d * v) : 0 < u ↔ 0 < v :=
  ⟨fun hu => Int.pos_of_mul_pos_right (h ▸ Int.mul_pos hc hu) hd, fun hv => Int.pos_of_mul_pos_right (h ▸ Int.mul_pos hd hv) hc⟩

theorem line_mono {a b u w : Pt} (hx : a.x < b.x) (hu : cross a b u = 0) (hw : cross a b w = 0) (h : u.x ≤ w.x) :
    (a.y ≤ b.y → u.y ≤ w.y) ∧ (b.y ≤ a.y → w.y ≤ u.y) := by
  have hD : 0 < b.x - a.x := by omega
  have s := cross_slope a b u w
  rw [hu, hw, Int.sub_self, Int.sub_eq_zero] at s
  constructor <;> intro hS
  · refine Int.le_of_sub_nonneg (Int.nonneg_of_mul_nonneg_right ?_ hD)
    rw [s]; exact Int.mul_nonneg (by omega) (by omega)
  · refine Int.le_of_sub_nonpos (Int.nonpos_of_mul_nonpos_right ?_ hD)
    rw [s]; exact Int.mul_nonpos_of_nonpos_of_nonneg (by omega) (by omega)

theorem onSeg_of_line {a b u v w : Pt} (hx : a.x < b.x) (hu : cross a b u = 0) (hv : cross a b v = 0)
    (hw : cross a b w = 0) (h1 : u.x ≤ w.x) (h2 : w.x ≤ v.x) : onSeg u v w = true := by
  have hz : cross u v w = 0 := by
    have := cross_line_x a b u v w
    rw [hu, hv, hw] at this
    exact (Int.mul_eq_zero.1 (this.trans (by simp only [Int.sub_self, Int.mul_zero]))).resolve_left (by omega)
  obtain ⟨r1, f1⟩ := line_mono hx hu hw h1
  obtain ⟨r2, f2⟩ := line_mono hx hw hv h2
  have hx1 := Int.le_trans (Int.min_le_left u.x v.x) h1
  have hx2 := Int.le_trans h2 (Int.le_max_right u.x v.x)
  rw [onSeg_iff]
  rcases Int.le_total a.y b.y with hS | hS
  · exact ⟨hz, hx1, hx2, Int.le_trans (Int.min_le_left ..) (r1 hS), Int.le_trans (r2 hS) (Int.le_max_right ..)⟩
  · exact ⟨hz, hx1, hx2, Int.le_trans (Int.min_le_right ..) (f2 hS), Int.le_trans (f1 hS) (Int.le_max_left ..)⟩

/-- the third conjunct is for the degenerate half `a = m` in `onSeg_trans`: the point then is `a` itself -/
theorem between_trans {a m b p : Int} (h1 : min a b ≤ m) (h2 : m ≤ max a b) (h3 : min a m ≤ p) (h4 : p ≤ max a m) :
    min a b ≤ p ∧ p ≤ max a b ∧ (m = a → p = a) := by omega

theorem onSeg_trans {a m b p : Pt} (hm : onSeg a b m = true) (hp : onSeg a m p = true) : onSeg a b p = true := by
  rw [onSeg_iff] at hm hp ⊢
  obtain ⟨hcm, mx1, mx2, my1, my2⟩ := hm
  obtain ⟨hcp, px1, px2, py1, py2⟩ := hp
  obtain ⟨x1, x2, x3⟩ := between_trans mx1 mx2 px1 px2
  obtain ⟨y1, y2, y3⟩ := between_trans my1 my2 py1 py2
  refine ⟨?_, x1, x2, y1, y2⟩
  -- `(m − a) · cross a b p = 0` in both coordinates
  have hX := cross_line_x a b a m p
  have hY := cross_line_y a b a m p
  rw [cross_self_left, hcm, hcp, Int.sub_zero, Int.sub_zero, Int.mul_zero, Int.mul_zero, Int.sub_zero] at hX hY
  rcases Int.mul_eq_zero.1 hX.symm with h | h
  · rcases Int.mul_eq_zero.1 hY.symm with h' | h'
    · rw [show p = a from Pt.ext' (x3 (by omega)) (y3 (by omega))]; exact cross_self_left a b
    · exact h'
  · exact h

def transpose (p : Pt) : Pt := ⟨p.y, p.x⟩
theorem onSeg_transpose (a b p : Pt) : onSeg (transpose a) (transpose b) (transpose p) = onSeg a b p := by
  rw [Bool.eq_iff_iff, onSeg_iff, onSeg_iff,
    show cross (transpose a) (transpose b) (transpose p) = - cross a b p by simp only [cross, transpose, Int.neg_sub, Int.mul_comm],
    Int.neg_eq_zero]
  exact ⟨fun ⟨h0, h1, h2, h3, h4⟩ => ⟨h0, h3, h4, h1, h2⟩, fun ⟨h0, h1, h2, h3, h4⟩ => ⟨h0, h3, h4, h1, h2⟩⟩

/-- Every point of the segment `ab` lies on `am` or on `mb`, whichever `m` of the segment is taken.  A predicate
    of the segment, so that the case `a.x < b.x` (`of_lt`) gives all directions by `swap` and `of_transpose`. -/
def Covers (a b : Pt) : Prop :=
  ∀ m p, onSeg a b m = true → onSeg a b p = true → onSeg a m p = true ∨ onSeg m b p = true

theorem Covers.of_lt {a b : Pt} (hx : a.x < b.x) : Covers a b := by
  intro m p hm hp
  obtain ⟨hcm, -⟩ := (onSeg_iff a b m).1 hm
  obtain ⟨hcp, _, _, -⟩ := (onSeg_iff a b p).1 hp
  by_cases hpm : p.x ≤ m.x
  · exact Or.inl (onSeg_of_line hx (cross_self_left a b) hcm hcp (by omega) hpm)
  · exact Or.inr (onSeg_of_line hx hcm (cross_self_right a b) hcp (by omega) (by omega))

theorem Covers.swap {a b : Pt} (h : Covers b a) : Covers a b := by
  intro m p hm hp
  rw [onSeg_swap m a, onSeg_swap b m]
  exact (h m p (by rwa [onSeg_swap]) (by rwa [onSeg_swap])).symm

theorem Covers.of_transpose {a b : Pt} (h : Covers (transpose a) (transpose b)) : Covers a b := by
  intro m p hm hp
  rw [← onSeg_transpose a m, ← onSeg_transpose m b]
  exact h (transpose m) (transpose p) (by rwa [onSeg_transpose]) (by rwa [onSeg_transpose])

theorem Covers.all (a b : Pt) : Covers a b := by
  rcases Int.lt_trichotomy a.x b.x with h | h | h
  · exact .of_lt h
  · rcases Int.lt_trichotomy a.y b.y with h' | h' | h'
    · exact .of_transpose (.of_lt h')
    · obtain rfl : a = b := Pt.ext' h h'
      intro m p hm hp
      rw [eq_of_onSeg_self hm, eq_of_onSeg_self hp]
      exact Or.inl (onSeg_self_left a a)
    · exact .swap (.of_transpose (.of_lt h'))
  · exact .swap (.of_lt h)

theorem onSeg_split (a m b p : Pt) (hm : onSeg a b m = true) :
    onSeg a b p = true ↔ (onSeg a m p = true ∨ onSeg m b p = true) := by
  refine ⟨Covers.all a b m p hm, fun h => h.elim (onSeg_trans hm) fun h => ?_⟩
  rw [onSeg_swap] at hm h ⊢
  exact onSeg_trans hm h

theorem edgeW_split_up {a m b p : Pt} (hcol : cross a b m = 0) (hy : a.y < b.y) (h1 : a.y ≤ m.y) (h2 : m.y ≤ b.y) :
    edgeW a m p + edgeW m b p = edgeW a b p := by
  have hD : 0 < b.y - a.y := by omega
  -- where it counts, each half's cross product is a positive multiple of the whole edge's
  by_cases c1 : a.y ≤ p.y ∧ p.y < m.y
  · have I : (b.y - a.y) * cross a m p = (m.y - a.y) * cross a b p := by
      have := cross_line_y a b a m p
      rwa [cross_self_left, hcol, Int.sub_zero, Int.sub_self, Int.mul_zero, Int.sub_zero] at this
    rw [edgeW_up c1, edgeW_zero (by omega) (by omega), edgeW_up (by omega), Int.add_zero]
    simp only [pos_iff_of_mul_eq hD (show 0 < m.y - a.y by omega) I]
  · by_cases c2 : m.y ≤ p.y ∧ p.y < b.y
    · have I : (b.y - a.y) * cross m b p = (b.y - m.y) * cross a b p := by
        have := cross_line_y a b m b p
        rwa [cross_self_right, hcol, Int.sub_zero, Int.sub_self, Int.mul_zero, Int.sub_zero] at this
      rw [edgeW_zero c1 (by omega), edgeW_up c2, edgeW_up (by omega), Int.zero_add]
      simp only [pos_iff_of_mul_eq hD (show 0 < b.y - m.y by omega) I]
    · rw [edgeW_zero c1 (by omega), edgeW_zero c2 (by omega), edgeW_zero (by omega) (by omega)]; rfl

theorem edgeW_split {a m b p : Pt} (hm : onSeg a b m = true) : edgeW a m p + edgeW m b p = edgeW a b p := by
  obtain ⟨hcol, -, -, _, _⟩ := (onSeg_iff a b m).1 hm
  rcases Int.lt_trichotomy a.y b.y with hlt | heq | hgt
  · exact edgeW_split_up hcol hlt (by omega) (by omega)
  · have hm' : a.y = m.y := by omega
    rw [edgeW_horiz hm', edgeW_horiz (hm'.symm.trans heq), edgeW_horiz heq]; rfl
  · have := edgeW_split_up (p := p) (show cross b a m = 0 by rw [cross_swap, hcol]; rfl) hgt (by omega) (by omega)
    rw [edgeW_swap m b p, edgeW_swap a m p, edgeW_swap a b p] at this
    omega

theorem InClosed_collinear_head (a m b : Pt) (l : List Pt) (p : Pt) (hm : onSeg a b m = true) :
    InClosed (a :: m :: b :: l) p ↔ InClosed (a :: b :: l) p := by
  have e1 : edges (a :: m :: b :: l) = (a, m) :: (m, b) :: edgesFrom a (b :: l) := rfl
  have e2 : edges (a :: b :: l) = (a, b) :: edgesFrom a (b :: l) := rfl
  rw [InClosed_iff, InClosed_iff, e1, e2]
  simp only [InClosedE, wnE_cons, bdE_cons, Bool.or_eq_true, ← Int.add_assoc, edgeW_split hm, onSeg_split a m b p hm, or_assoc]

theorem InClosed_collinear (l1 l2 : List Pt) (a m b p : Pt) (hm : onSeg a b m = true) :
    InClosed (l1 ++ a :: m :: b :: l2) p ↔ InClosed (l1 ++ a :: b :: l2) p := by
  rw [InClosed_rotate (a :: m :: b :: l2) l1, InClosed_rotate (a :: b :: l2) l1]
  exact InClosed_collinear_head a m b (l2 ++ l1) p hm

theorem InClosed_collinear_closing (l : List Pt) (a m b p : Pt) (hm : onSeg a b m = true) :
    InClosed (b :: l ++ [a, m]) p ↔ InClosed (b :: l ++ [a]) p := by
  rw [← InClosed_rotate (b :: l) [a, m] p, ← InClosed_rotate (b :: l) [a] p]
  exact InClosed_collinear_head a m b l p hm

def rectPoly (p0 p1 : Pt) : List Pt := [p0, ⟨p1.x, p0.y⟩, p1, ⟨p0.x, p1.y⟩]

theorem edges_rectPoly (x0 y0 x1 y1 : Int) : edges (rectPoly ⟨x0, y0⟩ ⟨x1, y1⟩) =
    [(⟨x0, y0⟩, ⟨x1, y0⟩), (⟨x1, y0⟩, ⟨x1, y1⟩), (⟨x1, y1⟩, ⟨x0, y1⟩), (⟨x0, y1⟩, ⟨x0, y0⟩)] := rfl

theorem edgeW_vert (x a b : Int) (p : Pt) (h : a ≤ p.y ∧ p.y < b) :
    edgeW ⟨x, a⟩ ⟨x, b⟩ p = if p.x < x then 1 else 0 := by
  have c : 1 * cross ⟨x, a⟩ ⟨x, b⟩ p = (b - a) * (x - p.x) := by unfold cross; grind
  rw [edgeW_up (a := ⟨x, a⟩) (b := ⟨x, b⟩) h]
  simp only [pos_iff_of_mul_eq Int.one_pos (show 0 < b - a by omega) c, Int.sub_pos]

theorem wn_rectPoly (x0 y0 x1 y1 : Int) (p : Pt) (hx : x0 ≤ x1) (hy : y0 ≤ y1) :
    wn (rectPoly ⟨x0, y0⟩ ⟨x1, y1⟩) p = if y0 ≤ p.y ∧ p.y < y1 ∧ x0 ≤ p.x ∧ p.x < x1 then 1 else 0 := by
  rw [wn, edges_rectPoly]
  simp only [List.map_cons, List.map_nil, List.sum_cons, List.sum_nil]
  -- the horizontal edges count nothing; the edge going down at `x0` is the reverse of one going up
  rw [edgeW_horiz (a := ⟨x0, y0⟩) (b := ⟨x1, y0⟩) rfl, edgeW_horiz (a := ⟨x1, y1⟩) (b := ⟨x0, y1⟩) rfl,
    edgeW_swap ⟨x0, y0⟩ ⟨x0, y1⟩]
  by_cases hin : y0 ≤ p.y ∧ p.y < y1
  · rw [edgeW_vert _ _ _ _ hin, edgeW_vert _ _ _ _ hin]
    omega
  · rw [edgeW_zero (a := ⟨x1, y0⟩) (b := ⟨x1, y1⟩) hin (by simp; omega),
      edgeW_zero (a := ⟨x0, y0⟩) (b := ⟨x0, y1⟩) hin (by simp; omega), if_neg (fun h => hin ⟨h.1, h.2.1⟩)]
    rfl

theorem onSeg_vert (x a b : Int) (p : Pt) : onSeg ⟨x, a⟩ ⟨x, b⟩ p = true ↔ p.x = x ∧ min a b ≤ p.y ∧ p.y ≤ max a b := by
  rw [onSeg_iff]
  simp only [cross, Int.min_self, Int.max_self]
  constructor
  · rintro ⟨_, h1, h2, h3, h4⟩; exact ⟨by omega, h3, h4⟩
  · rintro ⟨h0, h1, h2⟩; subst h0; exact ⟨by simp only [Int.sub_self, Int.zero_mul, Int.mul_zero], by omega, by omega, h1, h2⟩

theorem onSeg_horiz (a b y : Int) (p : Pt) : onSeg ⟨a, y⟩ ⟨b, y⟩ p = true ↔ p.y = y ∧ min a b ≤ p.x ∧ p.x ≤ max a b := by
  rw [← onSeg_transpose]; exact onSeg_vert y a b (transpose p)

theorem InClosed_rectPoly_norm (x0 y0 x1 y1 : Int) (p : Pt) (hx : x0 ≤ x1) (hy : y0 ≤ y1) :
    InClosed (rectPoly ⟨x0, y0⟩ ⟨x1, y1⟩) p ↔ (x0 ≤ p.x ∧ p.x ≤ x1 ∧ y0 ≤ p.y ∧ p.y ≤ y1) := by
  rw [InClosed, wn_rectPoly x0 y0 x1 y1 p hx hy, onBoundary, edges_rectPoly]
  simp only [List.any_cons, List.any_nil, Bool.or_false, Bool.or_eq_true, onSeg_horiz, onSeg_vert,
    Int.min_eq_left hx, Int.max_eq_right hx, Int.min_eq_right hx, Int.max_eq_left hx,
    Int.min_eq_left hy, Int.max_eq_right hy, Int.min_eq_right hy, Int.max_eq_left hy]
  split <;> omega

end L21.Geom
