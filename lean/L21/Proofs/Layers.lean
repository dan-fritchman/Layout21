import L21.Model.Layers
import L21.Proofs.ListFacts
/-
The layer / purpose tables (`layout21raw::data::{Layer, Layers}`) under sequences of calls: one layer under
`add_purpose`; a table used by number (`get_or_insert`: `WF` is kept and what `export_layerspec` found stays found,
`Keeps`, although a slot may be rewritten); a table used by name (`import_layer`: `WF` and `WFN` are kept and no slot is
touched, `SlotsKept`).  Each operation's spec reads "invariant kept ∧ state grown ∧ the returned key looks up to the
request"; `history_spec` carries such a spec over any sequence of calls.
-/
namespace L21.Layers

theorem amGet_insert {κ ν : Type} [DecidableEq κ] (m : List (κ × ν)) (k k2 : κ) (v : ν) :
    amGet (amInsert m k v) k2 = if k2 = k then some v else amGet m k2 := by
  induction m with
  | nil => simp only [amInsert, amGet, eq_comm]
  | cons a r ih =>
    obtain ⟨k', v'⟩ := a
    by_cases h1 : k' = k
    · subst h1; simp only [amInsert, amGet, if_true, eq_comm]; split <;> rfl
    · simp only [amInsert, amGet, h1, if_false, ih]
      split
      · rename_i h2; rw [if_neg (h2 ▸ h1)]
      · rfl

theorem addPurpose_eq {l l' : Layer} {m : Int} {q : Purpose} (h : l.addPurpose m q = some l') :
    purposeOk q m = true ∧ l' = { l with purps := amInsert l.purps m q, nums := amInsert l.nums q m } := by
  unfold Layer.addPurpose at h
  split at h
  · rename_i hok; exact ⟨hok, (Option.some.inj h).symm⟩
  · cases h

theorem layer_num_after_add {l l' : Layer} {m : Int} {q : Purpose} (h : l.addPurpose m q = some l') (p : Purpose) :
    l'.num p = if p = q then some m else l.num p := by
  obtain ⟨_, rfl⟩ := addPurpose_eq h
  exact amGet_insert ..

theorem layer_purpose_after_add {l l' : Layer} {m : Int} {q : Purpose} (h : l.addPurpose m q = some l') (n : Int) :
    l'.purpose n = if n = m then some q else l.purpose n := by
  obtain ⟨_, rfl⟩ := addPurpose_eq h
  exact amGet_insert ..

theorem layernum_after_add {l l' : Layer} {m : Int} {q : Purpose} (h : l.addPurpose m q = some l') : l'.layernum = l.layernum := by
  obtain ⟨_, rfl⟩ := addPurpose_eq h
  rfl

/-- a history of registrations (stops at the first refused one, as the `?` in the code does) -/
def addMany : Layer → List (Int × Purpose) → Option Layer
  | l, [] => some l
  | l, (m, q) :: rest => (l.addPurpose m q).bind fun l' => addMany l' rest

/-- the number `p` was last registered with in the history; the last argument is the answer before the history -/
def lastReg (p : Purpose) : List (Int × Purpose) → Option Int → Option Int
  | [], d => d
  | (m, q) :: rest, d => lastReg p rest (if p = q then some m else d)

theorem lastReg_isSome (p : Purpose) : ∀ (ops : List (Int × Purpose)) (d : Option Int), d.isSome = true → (lastReg p ops d).isSome = true
  | [], _, h => h
  | (m, q) :: r, d, h => by
    refine lastReg_isSome p r _ ?_
    split
    · rfl
    · exact h

/-- the two lookups of a layer are inverse to each other, and an `Other(k)` purpose stands under number k only
    (`add_purpose` refuses anything else; the fields are private in the code) -/
def Layer.Good (l : Layer) : Prop :=
  (∀ n p, l.purpose n = some p ↔ l.num p = some n) ∧ (∀ n k, l.purpose n = some (.other k) → k = n)

/-- the number index points at layers of that number; every layer is `Good` -/
def WF (ls : Layers) : Prop :=
  (∀ n k, ls.keynum n = some k → ∃ l, ls.slots[k]? = some l ∧ l.layernum = n) ∧ (∀ l ∈ ls.slots, l.Good)

theorem Layer.Good.num_iff {l : Layer} (h : l.Good) {n : Int} {p : Purpose} : l.purpose n = some p ↔ l.num p = some n := h.1 n p
theorem Layer.Good.other_eq {l : Layer} (h : l.Good) {n k : Int} (hp : l.purpose n = some (.other k)) : k = n := h.2 n k hp
theorem WF.index {ls : Layers} (h : WF ls) {n : Int} {k : Nat} (hk : ls.keynum n = some k) :
    ∃ l, ls.slots[k]? = some l ∧ l.layernum = n := h.1 n k hk
theorem WF.good {ls : Layers} (h : WF ls) {k : Nat} {l : Layer} (hl : ls.slots[k]? = some l) : l.Good :=
  h.2 l (List.mem_of_getElem? hl)

theorem good_empty (n : Int) (nm : Option Bytes) : (⟨n, nm, [], []⟩ : Layer).Good := by
  constructor
  · intro a b; simp [Layer.purpose, Layer.num, amGet]
  · intro a b; simp [Layer.purpose, amGet]

theorem Layer.Good.other_free {l : Layer} (hg : l.Good) {pn : Int} (hp : l.purpose pn = none) : l.num (.other pn) = none := by
  cases hx : l.num (.other pn) with
  | none => rfl
  | some n =>
    have h1 := hg.num_iff.2 hx
    cases hg.other_eq h1
    rw [hp] at h1; cases h1

theorem good_add_fresh {l l' : Layer} {n : Int} {p : Purpose} (hg : l.Good) (hn : l.purpose n = none) (hp : l.num p = none)
    (h : l.addPurpose n p = some l') : l'.Good := by
  constructor
  · intro n2 p2
    rw [layer_purpose_after_add h, layer_num_after_add h]
    -- neither `n` nor `p` occurs in the pairing of `l`
    have hn' : l.num p2 ≠ some n := fun e => by rw [hg.num_iff.2 e] at hn; cases hn
    have hp' : l.purpose n2 ≠ some p := fun e => by rw [hg.num_iff.1 e] at hp; cases hp
    by_cases h1 : n2 = n <;> by_cases h2 : p2 = p
    · simp [h1, h2]
    · simp [h1, h2, hn', Ne.symm h2]
    · simp [h1, h2, hp', Ne.symm h1]
    · simp [h1, h2, hg.num_iff]
  · intro n2 k
    rw [layer_purpose_after_add h]
    split
    · rename_i h1
      intro e
      cases e
      simpa [purposeOk, h1] using (addPurpose_eq h).1
    · exact hg.other_eq

theorem index_add {κ : Type} [DecidableEq κ] {P : κ → Layer → Prop} {idx : List (κ × Nat)} {slots : List Layer} {l : Layer} {key : κ}
    (hl : P key l) (h : ∀ n k, amGet idx n = some k → ∃ x, slots[k]? = some x ∧ P n x) :
    ∀ n k, amGet (amInsert idx key slots.length) n = some k → ∃ x, (slots ++ [l])[k]? = some x ∧ P n x := by
  intro n k hk
  rw [amGet_insert] at hk
  split at hk
  · rename_i e
    cases hk
    exact ⟨l, by simp, e ▸ hl⟩
  · obtain ⟨x, hx, hp⟩ := h n k hk
    exact ⟨x, by rw [List.getElem?_append_left (List.getElem?_eq_some_iff.1 hx).1]; exact hx, hp⟩

/-- adding a layer whose lookups are inverse keeps the table well-formed, also when its number is already taken
    (the index then points at the new layer; the old one keeps its key) -/
theorem add_keeps_wf (ls : Layers) (l : Layer) (h : WF ls) (hb : l.Good) : WF (ls.add l).1 := by
  refine ⟨index_add (P := fun n x => x.layernum = n) rfl h.1, fun x hx => ?_⟩
  rcases List.mem_append.1 hx with hx | hx
  · exact h.2 x hx
  · rw [List.mem_singleton.1 hx]; exact hb

theorem getElem?_setSlot {slots : List Layer} {k : Nat} {l1 : Layer} (h : slots[k]? = some l1) (l2 : Layer) (k' : Nat) :
    (setSlot slots k l2)[k']? = if k' = k then some l2 else slots[k']? := by
  rw [setSlot, List.getElem?_set]
  split
  · rename_i e; rw [if_pos (List.getElem?_eq_some_iff.1 h).1, if_pos e.symm]
  · rename_i e; rw [if_neg (Ne.symm e)]

theorem WF.set {ls : Layers} (h : WF ls) {k : Nat} {l1 l2 : Layer} (hl1 : ls.slots[k]? = some l1)
    (hn : l2.layernum = l1.layernum) (hg : l2.Good) : WF { ls with slots := setSlot ls.slots k l2 } := by
  refine ⟨fun n k' hk => ?_, fun x hx => ?_⟩
  · obtain ⟨l0, hl0, hnum0⟩ := h.index hk
    rw [getElem?_setSlot hl1]
    split
    · rename_i e
      rw [e, hl1] at hl0
      cases hl0
      exact ⟨l2, rfl, hn.trans hnum0⟩
    · exact ⟨l0, hl0, hnum0⟩
  · rcases List.mem_or_eq_of_mem_set hx with hx | rfl
    · exact h.2 x hx
    · exact hg

theorem layerspec_eq_some {ls : Layers} {k : Nat} {p : Purpose} {spec : Int × Int} :
    ls.layerspec k p = some spec ↔ ∃ l, ls.slots[k]? = some l ∧ l.layernum = spec.1 ∧ l.num p = some spec.2 := by
  unfold Layers.layerspec
  cases ls.slots[k]? with
  | none => simp
  | some l =>
    simp only [Option.map_eq_some_iff, Option.some.injEq, exists_eq_left']
    exact ⟨fun ⟨n, hn, e⟩ => e ▸ ⟨rfl, hn⟩, fun ⟨h1, h2⟩ => ⟨_, h2, Prod.ext h1 rfl⟩⟩

def Keeps (ls ls' : Layers) : Prop := ∀ k p spec, ls.layerspec k p = some spec → ls'.layerspec k p = some spec

theorem Keeps.refl (ls : Layers) : Keeps ls ls := fun _ _ _ h => h
theorem Keeps.trans {a b c : Layers} (h1 : Keeps a b) (h2 : Keeps b c) : Keeps a c := fun k p s hs => h2 k p s (h1 k p s hs)

theorem Keeps.of_slots {ls ls' : Layers} (h : ∀ (k : Nat) (l : Layer), ls.slots[k]? = some l →
    ∃ l', ls'.slots[k]? = some l' ∧ l'.layernum = l.layernum ∧ ∀ p n, l.num p = some n → l'.num p = some n) : Keeps ls ls' := by
  intro k p spec hs
  obtain ⟨l, hl, ha, hb⟩ := layerspec_eq_some.1 hs
  obtain ⟨l', hl', hn, hnum⟩ := h k l hl
  exact layerspec_eq_some.2 ⟨l', hl', hn.trans ha, hnum _ _ hb⟩

def SlotsKept (ls ls' : Layers) : Prop := ∀ (k : Nat) (l : Layer), ls.slots[k]? = some l → ls'.slots[k]? = some l

theorem SlotsKept.refl (ls : Layers) : SlotsKept ls ls := fun _ _ h => h
theorem SlotsKept.trans {a b c : Layers} (h1 : SlotsKept a b) (h2 : SlotsKept b c) : SlotsKept a c := fun k l hl => h2 k l (h1 k l hl)
theorem SlotsKept.keeps {ls ls' : Layers} (h : SlotsKept ls ls') : Keeps ls ls' :=
  .of_slots fun k l hl => ⟨l, h k l hl, rfl, fun _ _ h => h⟩

theorem add_slotsKept (ls : Layers) (l : Layer) : SlotsKept ls (ls.add l).1 := fun k x h => by
  simp only [Layers.add, List.getElem?_append_left (List.getElem?_eq_some_iff.1 h).1, h]

theorem Keeps.set {ls : Layers} {k : Nat} {l1 l2 : Layer} (hl1 : ls.slots[k]? = some l1) (hn : l2.layernum = l1.layernum)
    (hnum : ∀ p n, l1.num p = some n → l2.num p = some n) : Keeps ls { ls with slots := setSlot ls.slots k l2 } := by
  refine .of_slots fun k' l hl => ?_
  rw [getElem?_setSlot hl1]
  split
  · rename_i e
    rw [e, hl1] at hl
    cases hl
    exact ⟨l2, rfl, hn, hnum⟩
  · exact ⟨l, hl, rfl, fun _ _ h => h⟩

theorem ensure_spec {ls : Layers} (ln : Int) (h : WF ls) :
    WF (ls.ensure ln).1 ∧ Keeps ls (ls.ensure ln).1 ∧ ∃ l1, (ls.ensure ln).1.slots[(ls.ensure ln).2]? = some l1 ∧ l1.layernum = ln := by
  unfold Layers.ensure
  cases hk : ls.keynum ln with
  | some k => exact ⟨h, .refl ls, h.index hk⟩
  | none => exact ⟨add_keeps_wf ls _ h (good_empty ln none), (add_slotsKept ls _).keeps, ⟨ln, none, [], []⟩, by simp [Layers.add], rfl⟩

theorem purposeAt_spec {ls ls' : Layers} {k1 key : Nat} {pn : Int} {q : Purpose} {l1 : Layer} (hwf : WF ls)
    (hl1 : ls.slots[k1]? = some l1) (hg : ls.purposeAt k1 pn = some (ls', key, q)) :
    WF ls' ∧ Keeps ls ls' ∧ ls'.layerspec key q = some (l1.layernum, pn) := by
  have hgood := hwf.good hl1
  simp only [Layers.purposeAt, hl1] at hg
  cases hp : l1.purpose pn with
  | some p =>
    simp only [hp, Option.some.injEq, Prod.mk.injEq] at hg
    obtain ⟨rfl, rfl, rfl⟩ := hg
    exact ⟨hwf, .refl _, layerspec_eq_some.2 ⟨l1, hl1, rfl, hgood.num_iff.1 hp⟩⟩
  | none =>
    simp only [hp] at hg
    cases ha : l1.addPurpose pn (.other pn) with
    | none => simp [ha] at hg
    | some l2 =>
      simp only [ha, Option.some.injEq, Prod.mk.injEq] at hg
      obtain ⟨rfl, rfl, rfl⟩ := hg
      have hno := hgood.other_free hp
      have hn2 := layernum_after_add ha
      have hnum := layer_num_after_add ha
      -- `l2` knows every number `l1` knew: the only purpose that changed, `Other(pn)`, had none
      have hkeep : ∀ p n, l1.num p = some n → l2.num p = some n := fun p n h => by
        rw [hnum]
        split
        · rename_i e; rw [e, hno] at h; cases h
        · exact h
      exact ⟨hwf.set hl1 hn2 (good_add_fresh hgood hp hno ha), .set hl1 hn2 hkeep,
        layerspec_eq_some.2 ⟨l2, by rw [getElem?_setSlot hl1, if_pos rfl], hn2, by rw [hnum, if_pos rfl]⟩⟩

theorem getOrInsert_spec {ls ls' : Layers} {ln pn : Int} {key : Nat} {q : Purpose} (h : WF ls)
    (hg : ls.getOrInsert ln pn = some (ls', key, q)) :
    WF ls' ∧ Keeps ls ls' ∧ ls'.layerspec key q = some (ln, pn) := by
  obtain ⟨hwf1, hk1, l1, hl1, hn1⟩ := ensure_spec ln h
  obtain ⟨hwf2, hk2, hq⟩ := purposeAt_spec hwf1 hl1 hg
  exact ⟨hwf2, hk1.trans hk2, hn1 ▸ hq⟩

def getOrInsertMany : Layers → List (Int × Int) → Option (Layers × List (Nat × Purpose))
  | ls, [] => some (ls, [])
  | ls, (ln, pn) :: rest =>
    (ls.getOrInsert ln pn).bind fun (ls1, k, q) => (getOrInsertMany ls1 rest).map fun (ls2, out) => (ls2, (k, q) :: out)

theorem getOrInsertMany_spec {reqs : List (Int × Int)} {ls ls' : Layers} {out : List (Nat × Purpose)} (h : WF ls)
    (hg : getOrInsertMany ls reqs = some (ls', out)) :
    WF ls' ∧ Keeps ls ls' ∧ out.length = reqs.length ∧ ∀ i (hi : i < reqs.length) (ho : i < out.length),
      ls'.layerspec out[i].1 out[i].2 = some reqs[i] :=
  history_spec (step := fun ls r => ls.getOrInsert r.1 r.2) (Q := fun ls r kq => ls.layerspec kq.1 kq.2 = some r)
    (fun _ => rfl) (fun _ _ _ => rfl) Keeps.refl Keeps.trans (fun hle hq => hle _ _ _ hq) getOrInsert_spec h hg

def WFN (ls : Layers) : Prop := ∀ s k, ls.keyname s = some k → ∃ l, ls.slots[k]? = some l ∧ l.name = some s

theorem nextnumGo_free (ls : Layers) : ∀ (f : Nat) (k n : Int), ls.nextnumGo f k = some n → ls.keynum n = none
  | 0, _, _, h => by cases h
  | f + 1, k, n, h => by
    simp only [Layers.nextnumGo] at h
    split at h
    · rename_i hk; cases h; simpa [Layers.keynum, Option.isNone_iff_eq_none] using hk
    · exact nextnumGo_free ls f _ _ h

theorem nextnum_free (ls : Layers) (n : Int) (h : ls.nextnum = some n) : ls.keynum n = none :=
  nextnumGo_free ls _ _ _ h

theorem getName_eq_some {ls : Layers} {k : Nat} {s : Bytes} : ls.getName k = some s ↔ ∃ l, ls.slots[k]? = some l ∧ l.name = some s := by
  simp only [Layers.getName, Layers.get, Option.bind_eq_some_iff]

theorem SlotsKept.getName {ls ls' : Layers} {k : Nat} {s : Bytes} (h : SlotsKept ls ls') (hs : ls.getName k = some s) :
    ls'.getName k = some s := by
  obtain ⟨l, hl, hn⟩ := getName_eq_some.1 hs
  exact getName_eq_some.2 ⟨l, h k l hl, hn⟩

theorem importByName_spec {ls ls' : Layers} {name : Bytes} {key : Nat} (h : WF ls ∧ WFN ls)
    (hg : ls.importByName name = some (ls', key)) :
    (WF ls' ∧ WFN ls') ∧ SlotsKept ls ls' ∧ ls'.getName key = some name ∧
    ∀ (m : Int) (k : Nat), ls.keynum m = some k → ls'.keynum m = some k := by
  unfold Layers.importByName at hg
  cases hk : ls.keyname name with
  | some k =>
    simp only [hk, Option.some.injEq, Prod.mk.injEq] at hg
    obtain ⟨rfl, rfl⟩ := hg
    exact ⟨h, .refl _, getName_eq_some.2 (h.2 name k hk), fun _ _ h => h⟩
  | none =>
    simp only [hk] at hg
    cases hx : ls.nextnum with
    | none => simp [hx] at hg
    | some n =>
      simp only [hx, Option.some.injEq] at hg
      cases hg
      refine ⟨⟨add_keeps_wf ls _ h.1 (good_empty n (some name)), index_add (P := fun s x => x.name = some s) rfl h.2⟩,
        add_slotsKept ls _, by simp [Layers.getName, Layers.get], fun m k hmk => ?_⟩
      have hne : m ≠ n := fun e => by rw [e, nextnum_free ls n hx] at hmk; cases hmk
      simpa only [Layers.add, Layers.keynum, amGet_insert, if_neg hne] using hmk

def importByNameMany : Layers → List Bytes → Option (Layers × List Nat)
  | ls, [] => some (ls, [])
  | ls, s :: rest => (ls.importByName s).bind fun (ls1, k) => (importByNameMany ls1 rest).map fun (ls2, out) => (ls2, k :: out)

theorem importByNameMany_spec {names : List Bytes} {ls ls' : Layers} {keys : List Nat} (h : WF ls ∧ WFN ls)
    (hg : importByNameMany ls names = some (ls', keys)) :
    (WF ls' ∧ WFN ls') ∧ SlotsKept ls ls' ∧ keys.length = names.length ∧
    ∀ i (hi : i < names.length) (hk : i < keys.length), ls'.getName keys[i] = some names[i] :=
  history_spec (step := Layers.importByName) (Q := fun ls name k => ls.getName k = some name) (fun _ => rfl) (fun _ _ _ => rfl)
    SlotsKept.refl SlotsKept.trans SlotsKept.getName (fun h hg => have ⟨a, b, c, _⟩ := importByName_spec h hg; ⟨a, b, c⟩) h hg

end L21.Layers
