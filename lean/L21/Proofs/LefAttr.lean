import Lean.Meta.Tactic.Simp.RegisterCommand
/-- the simp set of the LEF write → read proofs: see the head of `Proofs/LefRT.lean` -/
register_simp_attr lef
