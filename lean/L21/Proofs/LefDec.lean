import L21.Model.LefWrite
import L21.Proofs.LefLex
/-
`Decimal::from_str` on every spelling of a number (`c04_decimal_every_spelling`), and from it the text round trip:
what `Display` prints, `from_str` reads back as the same (mantissa, scale), for every decimal rust_decimal
can hold (|mantissa| < 2^96, scale ≤ 28).
-/
namespace L21.Lef
open L21.LefLex L21.LefEnum

def lsdVal (cs : List Char) : Nat := cs.foldr (fun c acc => acc * 10 + dig c) 0

theorem digitChar_facts : ∀ k : Fin 10, isDigit (digitChar k) = true ∧ dig (digitChar k) = k := by
  decide

theorem digitChar_mod (n : Nat) : digitChar n = digitChar (n % 10) := by simp [digitChar]

theorem digitChar_isDigit (n : Nat) : isDigit (digitChar n) = true := by
  rw [digitChar_mod]; exact (digitChar_facts ⟨n % 10, Nat.mod_lt _ (by decide)⟩).1
theorem digitChar_dig (n : Nat) : dig (digitChar n) = n % 10 := by
  rw [digitChar_mod]; exact (digitChar_facts ⟨n % 10, Nat.mod_lt _ (by decide)⟩).2
theorem digit_not_sign (c : Char) (h : isDigit c = true) : c ≠ '-' ∧ c ≠ '+' := by
  refine ⟨?_, ?_⟩ <;> (intro e; subst e; revert h; decide)

theorem digitsRev_props : ∀ (f n : Nat), n < f → (∀ c ∈ digitsRev f n, isDigit c = true) ∧ lsdVal (digitsRev f n) = n := by
  intro f
  induction f with
  | zero => intro n h; omega
  | succ f ih =>
    intro n h
    unfold digitsRev
    split
    · rename_i hn
      refine ⟨?_, ?_⟩
      · intro c hc; simp at hc; subst hc; exact digitChar_isDigit n
      · simp [lsdVal, digitChar_dig]; omega
    · rename_i hn
      obtain ⟨a, b⟩ := ih (n / 10) (by omega)
      refine ⟨?_, ?_⟩
      · intro c hc
        simp at hc
        rcases hc with rfl | hc
        · exact digitChar_isDigit _
        · exact a c hc
      · simp only [lsdVal, List.foldr_cons] at b ⊢
        rw [b, digitChar_dig]; omega

theorem natText_props (n : Nat) : (∀ c ∈ natText n, isDigit c = true) ∧ dval (natText n) = n := by
  obtain ⟨a, b⟩ := digitsRev_props (n + 1) n (by omega)
  refine ⟨?_, ?_⟩
  · intro ch h; exact a ch (by simpa [natText] using h)
  · simp only [natText, dval, List.foldl_reverse]; exact b

theorem c04_leading_zeros (ds : List Char) (k : Nat) : dval (List.replicate k '0' ++ ds) = dval ds := by
  simp only [dval, List.foldl_append]
  congr 1
  induction k with
  | zero => rfl
  | succ k ih => simp only [List.replicate_succ, List.foldl_cons]; simpa [dig] using ih

/-- a decimal rust_decimal can represent -/
def decWf (d : Dec) : Prop := d.mant.natAbs < 2 ^ 96 ∧ d.scale ≤ 28

theorem parseCore_wf (neg : Bool) (ip fp rest : Str) (d : Dec) (h : parseCore neg ip fp rest = some d) : decWf d := by
  simp only [parseCore, Option.ite_none_left_eq_some, Option.some.injEq] at h
  obtain ⟨_, _, h1, h2, rfl⟩ := h
  refine ⟨?_, Nat.le_of_not_lt h1⟩
  cases neg
  · exact Nat.lt_of_not_le h2
  · rw [if_pos rfl, Int.natAbs_neg]; exact Nat.lt_of_not_le h2

theorem decText_parts (d : Dec) : ∃ ip fp : List Char,
    decText d = (if d.mant < 0 then ['-'] else []) ++ ip ++ (if d.scale = 0 then [] else '.' :: fp) ∧
    ip ≠ [] ∧ fp.length = d.scale ∧ (∀ c ∈ ip, isDigit c = true) ∧ (∀ c ∈ fp, isDigit c = true) ∧ dval (ip ++ fp) = d.mant.natAbs := by
  obtain ⟨ha, hb⟩ := natText_props d.mant.natAbs
  let ds := List.replicate (d.scale + 1 - (natText d.mant.natAbs).length) '0' ++ natText d.mant.natAbs
  have hlen : d.scale + 1 ≤ ds.length := by simp only [ds, List.length_append, List.length_replicate]; omega
  have hdig : ∀ c ∈ ds, isDigit c = true := by
    intro c hc
    simp only [ds, List.mem_append, List.mem_replicate] at hc
    rcases hc with ⟨_, rfl⟩ | hc
    · decide
    · exact ha c hc
  refine ⟨ds.take (ds.length - d.scale), ds.drop (ds.length - d.scale), rfl, ?_, ?_, ?_, ?_, ?_⟩
  · intro h
    have := congrArg List.length h
    simp only [List.length_take, List.length_nil] at this
    omega
  · simp only [List.length_drop]; omega
  · intro c hc; exact hdig c (List.mem_of_mem_take hc)
  · intro c hc; exact hdig c (List.mem_of_mem_drop hc)
  · rw [List.take_append_drop]; simp only [ds]; rw [c04_leading_zeros]; exact hb

def signChars : Option Bool → List Char
  | none => []
  | some true => ['-']
  | some false => ['+']

theorem signSplit_sign (sg : Option Bool) (c : Char) (r : List Char) (hc : c ≠ '-' ∧ c ≠ '+') :
    signSplit (signChars sg ++ c :: r) = (sg == some true, c :: r) := by
  cases sg with
  | none =>
    simp only [signChars, List.nil_append]
    unfold signSplit
    split
    · rename_i heq; simp at heq; exact absurd heq.1 hc.1
    · rename_i heq; simp at heq; exact absurd heq.1 hc.2
    · rfl
  | some b => cases b <;> rfl

theorem parseUnsigned_digits (neg : Bool) (ip fp : List Char) (hdi : ∀ c ∈ ip, isDigit c = true) (hdf : ∀ c ∈ fp, isDigit c = true) :
    parseUnsigned neg (ip ++ (if fp = [] then [] else '.' :: fp)) = parseCore neg ip fp [] := by
  have hspan : spanP isDigit (ip ++ (if fp = [] then [] else '.' :: fp)) = (ip, if fp = [] then [] else '.' :: fp) := by
    apply spanP_append_stop _ _ _ (List.all_eq_true.2 hdi)
    split
    · intro c hc; cases hc
    · intro c hc; cases hc; decide
  have hfrac : fracSpan (if fp = [] then [] else '.' :: fp) = (fp, []) := by
    split
    · rename_i h; rw [h]; rfl
    · show spanP isDigit fp = (fp, [])
      simpa using spanP_append_stop isDigit fp [] (List.all_eq_true.2 hdf) (fun _ h => nomatch h)
  rw [parseUnsigned, hspan, hfrac]

/-- C04, every spelling — optional sign, integer digits (possibly none: leading dot), optional point and fraction digits
    (possibly with trailing zeros): the value read is (± the digits read as one integer, the number of fraction digits) -/
theorem c04_decimal_every_spelling (sg : Option Bool) (ip fp : List Char)
    (hdi : ∀ c ∈ ip, isDigit c = true) (hdf : ∀ c ∈ fp, isDigit c = true)
    (hne : ip ≠ [] ∨ fp ≠ []) (hfl : fp.length ≤ 28) (hm : dval (ip ++ fp) < 2 ^ 96) :
    parseDecText (signChars sg ++ ip ++ (if fp = [] then [] else '.' :: fp)) =
      some ⟨if sg = some true then -(dval (ip ++ fp) : Int) else dval (ip ++ fp), fp.length⟩ := by
  obtain ⟨c, r, hcr, hc⟩ : ∃ c r, ip ++ (if fp = [] then [] else '.' :: fp) = c :: r ∧ c ≠ '-' ∧ c ≠ '+' := by
    cases ip with
    | cons a b => exact ⟨a, _, rfl, digit_not_sign a (hdi a List.mem_cons_self)⟩
    | nil => exact ⟨'.', fp, by simpa using hne, by decide, by decide⟩
  have hemp : (ip.isEmpty && fp.isEmpty) = false := by
    rcases hne with h | h
    · cases ip with | nil => exact absurd rfl h | cons a b => rfl
    · cases fp with | nil => exact absurd rfl h | cons a b => exact Bool.and_false _
  rw [parseDecText, List.append_assoc, hcr, signSplit_sign sg c r hc, ← hcr, parseUnsigned_digits _ _ _ hdi hdf]
  simp only [parseCore, hemp, Nat.not_lt.2 hfl, Nat.not_le.2 hm, List.isEmpty_nil, Bool.not_true, Bool.false_eq_true, if_false,
    beq_iff_eq]

/-- C05, decimals: `Display` then `from_str` is the identity on every representable decimal, in value and scale, so
    trailing zeros survive. -/
theorem c05_decimal_text_roundtrip (d : Dec) (h : decWf d) : parseDecText (decText d) = some d := by
  obtain ⟨ip, fp, htext, hip, hfl, hdi, hdf, hval⟩ := decText_parts d
  have hsg : (if d.mant < 0 then ['-'] else []) = signChars (if d.mant < 0 then some true else none) := by split <;> rfl
  have hpt : d.scale = 0 ↔ fp = [] := by rw [← hfl]; exact List.length_eq_zero_iff
  rw [htext, hsg]
  simp only [hpt]
  rw [c04_decimal_every_spelling _ ip fp hdi hdf (.inl hip) (hfl ▸ h.2) (hval ▸ h.1), hval, hfl]
  obtain ⟨mant, scale⟩ := d
  by_cases hneg : mant < 0
  · simp [hneg]; omega
  · simp [hneg]; omega

end L21.Lef
