import L21.Model.LefEnum
import L21.Proofs.LefLex
/-
The regenerated keyword / enum tables (`L21.Gen.lefEnums`).  One kernel evaluation, `all_tables_ok`, looks at every entry
of every table; `entry_ok` is what it says about one entry, and everything else about keywords is read off that.  The
rest is about canonical characters (upper-case letters and digits): upper-casing leaves them alone, and a canonical word
that starts with a letter is lexed as one name.
-/
namespace L21.LefEnum
open L21.Gen

def isUpperLetter (c : Char) : Bool := 'A' ≤ c && c ≤ 'Z'

/-- The UTF-8 bytes of `s`.  The kernel gets them from a literal at a fifth of what `s.toList` costs it (which decodes
    them again). -/
def codes (s : String) : List Nat := s.toByteArray.data.toList.map UInt8.toNat

/-- the bytes as one number: what the kernel compares fastest -/
def asNat (s : String) : Nat := (codes s).foldl (fun n b => n * 256 + b) 0

def distinct : List Nat → Bool
  | [] => true
  | a :: l => !l.contains a && distinct l

theorem find?_of_distinct {α : Type} (f : α → String) (k : String → Nat) : ∀ {l : List α},
    distinct (l.map fun q => k (f q)) = true → ∀ {p}, p ∈ l → l.find? (f · == f p) = some p
  | a :: l, h, p, hp => by
    simp only [List.map_cons, distinct, Bool.and_eq_true, Bool.not_eq_true', List.contains_eq_mem, List.mem_map,
      decide_eq_false_iff_not, not_exists, not_and] at h
    rcases List.mem_cons.1 hp with rfl | hp
    · exact List.find?_cons_of_pos (beq_self_eq_true _)
    · rw [List.find?_cons_of_neg (p := (f · == f p)) fun e => h.1 p hp (congrArg k (beq_iff_eq.1 e)).symm]
      exact find?_of_distinct f k h.2 hp

theorem toStr_mem {tbl : Table} {v s : String} (h : toStr tbl v = some s) : (v, s) ∈ tbl := by
  simp only [toStr, Option.map_eq_some_iff] at h
  obtain ⟨⟨a, b⟩, hf, rfl⟩ := h
  have := List.find?_some hf
  simp only [beq_iff_eq] at this
  exact this ▸ List.mem_of_find?_eq_some hf

theorem fromStr_variant (tbl : Table) (txt v : String) (h : fromStr tbl txt = some v) : (toStr tbl v).isSome = true := by
  unfold fromStr at h
  simp only [Option.map_eq_some_iff] at h
  obtain ⟨p, hp, rfl⟩ := h
  have hm := List.mem_of_find?_eq_some hp
  unfold toStr
  simp only [Option.isSome_map]
  rw [List.find?_isSome]
  exact ⟨p, hm, by simp⟩

/-- `String.ofList cs == p.2`: the string is ASCII, its bytes as characters spell it -/
def tableOk (tbl : Table) : Bool :=
  distinct (tbl.map (asNat ·.1)) && distinct (tbl.map (asNat ·.2)) && tbl.all fun p =>
    let cs := (codes p.2).map Char.ofNat
    String.ofList cs == p.2 && cs.head?.any isUpperLetter && cs.all canonicalChar

theorem all_tables_ok : lefEnums.all (fun t => tableOk t.2) = true := by decide +kernel

theorem entry_ok {t : String × Table} (ht : t ∈ lefEnums) {p : String × String} (hp : p ∈ t.2) :
    (∃ c body, p.2.toList = c :: body ∧ isUpperLetter c = true) ∧ p.2.toList.all canonicalChar = true ∧
      fromStr t.2 p.2 = some p.1 ∧ toStr t.2 p.1 = some p.2 := by
  have h := List.all_eq_true.1 all_tables_ok t ht
  simp only [tableOk, Bool.and_eq_true] at h
  obtain ⟨⟨d1, d2⟩, h3⟩ := h
  have h3 := List.all_eq_true.1 h3 p hp
  simp only [Bool.and_eq_true, beq_iff_eq] at h3
  obtain ⟨⟨e, h1⟩, h2⟩ := h3
  rw [← congrArg String.toList e, String.toList_ofList]
  refine ⟨?_, h2, congrArg (Option.map Prod.fst) (find?_of_distinct Prod.snd asNat d2 hp),
    congrArg (Option.map Prod.snd) (find?_of_distinct Prod.fst asNat d1 hp)⟩
  cases hl : (codes p.2).map Char.ofNat with
  | nil => rw [hl] at h1; cases h1
  | cons c body => rw [hl] at h1; exact ⟨c, body, rfl, h1⟩

theorem parse_entry {t : String × Table} (ht : t ∈ lefEnums) {p : String × String} (hp : p ∈ t.2) {s : List Char}
    (hs : upper s = p.2.toList) : parse t.2 s = some p.1 := by
  rw [parse, hs, String.ofList_toList]
  exact (entry_ok ht hp).2.2.1

theorem canonical_cases {P : Char → Prop} (hA : ∀ n, n < 26 → P (Char.ofNat (65 + n)))
    (hD : ∀ n, n < 10 → P (Char.ofNat (48 + n))) (c : Char) (h : canonicalChar c = true) : P c := by
  simp only [canonicalChar, Bool.or_eq_true, Bool.and_eq_true, decide_eq_true_eq] at h
  rw [← Char.ofNat_toNat c]
  rcases h with ⟨h1, h2⟩ | ⟨h1, h2⟩
  · have h1' : 65 ≤ c.toNat := h1
    have h2' : c.toNat ≤ 90 := h2
    rw [show c.toNat = 65 + (c.toNat - 65) by omega]; exact hA _ (by omega)
  · have h1' : 48 ≤ c.toNat := h1
    have h2' : c.toNat ≤ 57 := h2
    rw [show c.toNat = 48 + (c.toNat - 48) by omega]; exact hD _ (by omega)

theorem upperC_of_not_lower {c : Char} (h : ¬('a' ≤ c ∧ c ≤ 'z')) : upperC c = c := if_neg h

/-- a canonical character lies below `'a'` -/
theorem upperC_canonical (c : Char) (h : canonicalChar c = true) : upperC c = c :=
  upperC_of_not_lower fun hc => by
    have h1 : 97 ≤ c.toNat := hc.1
    simp only [canonicalChar, Bool.or_eq_true, Bool.and_eq_true, decide_eq_true_eq] at h
    have : c.toNat ≤ 90 := h.elim (fun h => h.2) fun h => Nat.le_trans (show c.toNat ≤ 57 from h.2) (by decide)
    omega

theorem upperC_lowerC_canonical (c : Char) (h : canonicalChar c = true) : upperC (lowerC c) = c :=
  canonical_cases (P := fun c => upperC (lowerC c) = c) (by decide +kernel) (by decide +kernel) c h

theorem upper_canonical (s : List Char) (h : s.all canonicalChar = true) : upper s = s :=
  (List.map_congr_left fun c hc => upperC_canonical c (List.all_eq_true.1 h c hc)).trans (List.map_id' s)

theorem upperC_idem (c : Char) : upperC (upperC c) = upperC c := by
  by_cases hc : 'a' ≤ c ∧ c ≤ 'z'
  · have h1 : 97 ≤ c.toNat := hc.1
    have h2 : c.toNat ≤ 122 := hc.2
    have : ∀ n, n < 26 → upperC (upperC (Char.ofNat (97 + n))) = upperC (Char.ofNat (97 + n)) := by decide +kernel
    have e : Char.ofNat c.toNat = c := Char.ofNat_toNat c
    rw [← e, show c.toNat = 97 + (c.toNat - 97) by omega]; exact this _ (by omega)
  · rw [upperC_of_not_lower hc, upperC_of_not_lower hc]

theorem upper_idem (s : List Char) : upper (upper s) = upper s := by
  simp [upper, upperC_idem]

/-- a spelling of `s` that differs from it only in the case of some letters -/
def caseVariant (choice : List Bool) (s : List Char) : List Char :=
  (s.zip (choice ++ List.replicate s.length false)).map fun (c, lo) => if lo then lowerC c else c

theorem upper_lowered : ∀ (s : List Char) (choices : List Bool), s.all canonicalChar = true → s.length ≤ choices.length →
    upper ((s.zip choices).map fun (c, lo) => if lo then lowerC c else c) = s
  | [], _, _, _ => rfl
  | c :: s, b :: bs, h, hl => by
    simp only [List.all_cons, Bool.and_eq_true] at h
    have hb : upperC (if b = true then lowerC c else c) = c := by
      cases b
      · exact upperC_canonical c h.1
      · exact upperC_lowerC_canonical c h.1
    have ih := upper_lowered s bs h.2 (Nat.le_of_succ_le_succ hl)
    simp only [upper, List.zip_cons_cons, List.map_cons] at ih ⊢
    rw [hb, ih]

theorem upper_caseVariant (s : List Char) (choice : List Bool) (h : s.all canonicalChar = true) :
    upper (caseVariant choice s) = s :=
  upper_lowered s _ h (by rw [List.length_append, List.length_replicate]; exact Nat.le_add_left _ _)

/-- C04: no value but the ten legal ones is accepted, and what the check returns is the exact value of the decimal -/
theorem c04_dbu_only_legal (d : Dec) (v : Int) (h : dbuTryNew d = some v) :
    v ∈ legalDbu ∧ d.mant = v * 10 ^ d.scale := by
  simp only [dbuTryNew, Option.ite_none_left_eq_some, Option.ite_none_right_eq_some, Option.some.injEq, ne_eq, Decidable.not_not,
    List.contains_eq_mem, decide_eq_true_eq] at h
  obtain ⟨hm, hc, rfl⟩ := h
  exact ⟨hc, (Int.ediv_mul_cancel (Int.dvd_of_emod_eq_zero hm)).symm⟩

open L21.LefLex

theorem canonical_word (c : Char) (h : canonicalChar c = true) :
    isWsUnicode c = false ∧ c ≠ '\n' ∧ c ≠ ';' ∧ c ≠ '"' ∧ c ≠ '#' ∧ c.utf8Size = 1 :=
  canonical_cases (P := fun c => isWsUnicode c = false ∧ c ≠ '\n' ∧ c ≠ ';' ∧ c ≠ '"' ∧ c ≠ '#' ∧ c.utf8Size = 1)
    (by decide +kernel) (by decide +kernel) c h

theorem bytes_canonical : ∀ (l : List Char), l.all canonicalChar = true → bytes l = l.length
  | [], _ => rfl
  | c :: r, h => by
    simp only [List.all_cons, Bool.and_eq_true] at h
    rw [bytes_cons, (canonical_word c h.1).2.2.2.2.2, bytes_canonical r h.2, List.length_cons, Nat.add_comm]

theorem lex_canonical (c : Char) (body : List Char) (hc : isUpperLetter c = true) (hb : (c :: body).all canonicalChar = true) :
    lex isWsUnicode (c :: body) = .ok [⟨.name, 0, (c :: body).length⟩] := by
  have hlen := bytes_canonical _ hb
  simp only [List.all_cons, Bool.and_eq_true] at hb
  obtain ⟨w1, w2, w3, w4, w5, _⟩ := canonical_word c hb.1
  have hnum : LefLexRT.numStart c = false :=
    canonical_cases (P := fun c => isUpperLetter c = true → LefLexRT.numStart c = false)
      (by decide +kernel) (by decide +kernel) c hb.1 hc
  have hch := chunkOf_word isWsUnicode c body [] w1 w2 w3 w4 w5
    (List.all_eq_true.2 fun d hd => by rw [(canonical_word d (List.all_eq_true.1 hb.2 d hd)).1]; rfl)
    (fun _ h => nomatch h)
  rw [List.append_nil, hnum] at hch
  rw [lex, List.length_cons, lexFrom_succ, hch, Nat.zero_add, hlen]
  rfl

end L21.LefEnum
