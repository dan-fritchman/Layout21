import L21.Proofs.LefRTLib
import L21.Proofs.LefProgress
import L21.Proofs.LefDec
/-
The image of the reader model: every value a parse routine returns meets the well-formedness predicate under which the
writer's output is read back (`LefRT`): decimals are representable, enumerated values are table variants, polygons have
≥ 3 points, …  With `c05_write_read_tokens` this gives C05 for every library the reader can produce.

As in `LefProgress`: `Ret Q o` / `Img Q p` are closed under the constructions the routines are written with; a loop is a
recursion on its budget, one `.ite` per branch of its `if` chain naming the fact that keeps the invariant.
`propertyPairs` and `extBody` have no `_img`: the invariants say nothing of property values and extension data (`libOkNoExt`).
-/
namespace L21.Lef
open L21.LefLex L21.LefEnum L21.Gen

def Ret {β : Type} (Q : β → Prop) (o : Option β) : Prop := ∀ b, o = some b → Q b

def Img {α : Type} (Q : α → Prop) (p : P α) : Prop := ∀ ts, Ret (fun x => Q x.1) (p ts)

namespace Ret
variable {β γ : Type} {Q : β → Prop}

theorem none : Ret Q none := fun _ e => nomatch e
theorem some {b : β} (h : Q b) : Ret Q (some b) := fun _ e => by cases e; exact h

theorem bind {o : Option γ} {F : γ → Option β} (h : ∀ x, o = .some x → Ret Q (F x)) : Ret Q (o.bind F) := by
  intro b e
  obtain ⟨x, e₁, e₂⟩ := Option.bind_eq_some_iff.1 e
  exact h x e₁ b e₂

theorem map {o : Option γ} {g : γ → β} (h : ∀ x, o = .some x → Q (g x)) : Ret Q (o.map g) := by
  intro b e
  obtain ⟨x, e₁, e₂⟩ := Option.map_eq_some_iff.1 e
  exact e₂ ▸ h x e₁

theorem dite {c : Prop} [Decidable c] {A B : Option β} (ht : c → Ret Q A) (he : ¬c → Ret Q B) : Ret Q (if c then A else B) := by
  split
  · exact ht ‹_›
  · exact he ‹_›

theorem ite {c : Prop} [Decidable c] {A B : Option β} (ht : Ret Q A) (he : Ret Q B) : Ret Q (if c then A else B) :=
  dite (fun _ => ht) fun _ => he

theorem peek {ts : List Tok} {F : String → Option β} (h : ∀ k, peekKey ts = .some k → Ret Q (F k)) :
    Ret Q (match peekKey ts with | .none => .none | .some k => F k) := by
  cases hk : peekKey ts with
  | none => exact none
  | some k => exact h k hk

theorem key {o : Option (String × List Tok)} {F : String → List Tok → Option β} (h : ∀ k r, Ret Q (F k r)) :
    Ret Q (match o with | .none => .none | .some (k, r) => F k r) := by
  cases o with
  | none => exact none
  | some x => exact h _ _
end Ret

theorem Img.bind {α β : Type} {Q₁ : α → Prop} {Q : β → Prop} {p : P α} (hp : Img Q₁ p) {ts : List Tok}
    {F : α × List Tok → Option β} (h : ∀ x, Q₁ x.1 → Ret Q (F x)) : Ret Q ((p ts).bind F) :=
  Ret.bind fun x e => h x (hp ts x e)

/-- the `decOk` side conditions inside `libOk` hold for every representable decimal -/
theorem c05_decOk_of_wf (d : Dec) (h : decWf d) : decOk d = true := by
  simp [decOk, c05_decimal_text_roundtrip d h]

theorem number_img : Img (decOk · = true) number := fun ts => by
  rw [number_eq]
  exact .bind fun _ _ => .map fun _ hd => c05_decOk_of_wf _ (parseCore_wf _ _ _ _ _ hd)

theorem point_img : Img (ptOk · = true) point := fun ts => by
  rw [point_eq]
  exact number_img.bind fun _ hx => number_img.bind fun _ hy => .some (by simp [ptOk, hx, hy])

theorem pointList_img : ∀ (f : Nat) (ts : List Tok), Ret (fun x => x.1.all ptOk = true) (pointList f ts)
  | 0, _ => .none
  | f + 1, ts => .ite (by
      cases hp : point ts with
      | none => exact .none
      | some x => exact .map fun y hy => by simp [point_img _ _ hp, pointList_img f _ _ hy]) (.some rfl)

theorem parseEnum_img (tb : String) : Img (isVariant tb · = true) (parseEnum tb) := fun ts => by
  rw [parseEnum_eq]
  exact .bind fun _ _ => .map fun _ hv => fromStr_variant _ _ _ hv

theorem geomMask_img : Img (maskOk · = true) geomMask := fun _ =>
  .ite (.peek fun _ _ => .ite (.map fun _ hx => number_img _ _ hx) (.some rfl)) (.some rfl)

theorem stepPattern_img : Img (stepOk · = true) stepPattern := fun _ =>
  .bind fun _ _ => number_img.bind fun _ h1 => .bind fun _ _ => number_img.bind fun _ h2 => .bind fun _ _ =>
    number_img.bind fun _ h3 => number_img.bind fun _ h4 => .some (by simp [stepOk, h1, h2, h3, h4])

theorem geomTail_img (it : Bool) (s : Shape) (hs : shapeOk s = true) : Img (geomOk · = true) (geomTail it s) := by
  cases it
  · exact fun _ => .bind fun _ _ => .some (by simp [geomOk, hs])
  · exact fun _ => stepPattern_img.bind fun _ hp => .bind fun _ _ => .some (by simp [geomOk, hs, hp])

theorem geometry_img : Img (geomOk · = true) geometry := fun _ =>
  .bind fun _ _ =>
    .ite (geomMask_img.bind fun _ hm => .bind fun _ _ => point_img.bind fun _ ha => point_img.bind fun _ hb =>
      geomTail_img _ _ (by simp [shapeOk, hm, ha, hb]) _) <|
    .ite (geomMask_img.bind fun _ hm => .bind fun _ _ => .bind fun _ hps => .dite (fun _ => .none) fun _ =>
      geomTail_img _ _ (by simp [shapeOk, hm, pointList_img _ _ _ hps]; omega) _) <|
    .ite (geomMask_img.bind fun _ hm => .bind fun _ _ => .bind fun _ hps => .dite (fun _ => .none) fun _ =>
      geomTail_img _ _ (by simp [shapeOk, hm, pointList_img _ _ _ hps]; omega) _) .none

theorem layerHeader_img : ∀ (f : Nat) (lg : LayerGeoms) (ts : List Tok), lgOk lg = true → Ret (lgOk ·.1 = true) (layerHeader f lg ts)
  | 0, _, _, _ => .none
  | f + 1, lg, ts, h => .ite (.some h) <| .key fun k r => by
    have ih {lg' r} := layerHeader_img f lg' r
    have h' := lgOk_iff.1 h
    exact .ite (ih (by simp [lgOk, h'])) <|
      .ite (number_img.bind fun _ hd => ih (by simp [lgOk, h', spacingOk, hd])) <|
      .ite (number_img.bind fun _ hd => ih (by simp [lgOk, h', spacingOk, hd])) .none

theorem layerBody_img : ∀ (f : Nat) (lg : LayerGeoms) (ts : List Tok), lgOk lg = true → Ret (lgOk ·.1 = true) (layerBody f lg ts)
  | 0, _, _, _ => .none
  | f + 1, lg, ts, h => .ite (.some h) <| .peek fun k _ => by
    have ih {lg' r} := layerBody_img f lg' r
    have h' := lgOk_iff.1 h
    exact .ite (.some h) <|
      .ite (geometry_img.bind fun _ hg => ih (by simp [lgOk, h', hg])) <|
      .ite (.ite .none <| point_img.bind fun _ hp => .bind fun _ _ => .bind fun _ _ => ih (by simp [lgOk, h', viaInstOk, hp])) <|
      .ite (number_img.bind fun _ hd => .bind fun _ _ => ih (by simp [lgOk, h', hd])) .none

theorem layerGeoms_img : Img (lgOk · = true) layerGeoms := fun _ =>
  .bind fun _ _ => .bind fun _ _ => .bind fun _ h1 => fun _ h2 =>
    layerBody_img _ _ _ (layerHeader_img _ _ _ (by simp [lgOk, spacingOk]) _ h1) _ h2

theorem portBody_img : ∀ (f : Nat) (p : Port) (ts : List Tok), portOk p = true → Ret (portOk ·.1 = true) (portBody f p ts)
  | 0, _, _, _ => .none
  | f + 1, p, ts, h => .peek fun k _ => by
    have ih {p' r} := portBody_img f p' r
    have h' := portOk_iff.1 h
    exact .ite ((parseEnum_img _).bind fun _ hc => .bind fun _ _ => ih (by simp [portOk, h', hc])) <|
      .ite (layerGeoms_img.bind fun _ hl => .ite (ih (by simp [portOk, h', hl])) .none) <| .ite (.some h) .none

theorem port_img : Img (portOk · = true) port := fun _ => .bind fun _ _ => portBody_img _ _ _ (by simp [portOk])

theorem pinDirection_img : Img (dirOk · = true) pinDirection := fun _ =>
  .bind fun _ _ => .bind fun _ _ => .ite (.map fun _ _ => rfl) <| .ite (.map fun _ _ => rfl) <| .ite (.map fun _ _ => rfl) <|
    .ite (.ite (.some rfl) <| .bind fun _ _ => .bind fun _ _ => .some rfl) .none

theorem peekKey_getName (ts : List Tok) (k : String) (key : Str) (r : List Tok) (h1 : peekKey ts = some k) (h2 : getName ts = some (key, r)) :
    LefEnum.parse keyTable key = some k := by
  cases ts with
  | nil => simp [peekKey] at h1
  | cons t r' =>
    obtain ⟨tt, txt⟩ := t
    cases tt <;> simp [peekKey, getName, expectTT] at h1 h2
    obtain ⟨rfl, _⟩ := h2
    exact h1

theorem antenna_ok (key : Str) (k : String) (v : Dec) (l : Option Str) (hk : LefEnum.parse keyTable key = some k)
    (hc : antennaKeys.contains k = true) (hv : decOk v = true) : antennaOk ⟨upperStr key, v, l⟩ = true := by
  have : LefEnum.parse keyTable (upper key) = some k := by
    simp only [LefEnum.parse, upper_idem] at hk ⊢; exact hk
  simp only [antennaOk, upperStr, this, hc, hv, upper_idem, beq_self_eq_true, Bool.and_self]

theorem pinBody_img : ∀ (f : Nat) (p : Pin) (ts : List Tok), pinOk p = true → Ret (pinOk ·.1 = true) (pinBody f p ts)
  | 0, _, _, _ => .none
  | f + 1, p, ts, h => .peek fun k hk => by
    have ih {p' r} := pinBody_img f p' r
    have h' := pinOk_iff.1 h
    exact
    .ite (.some h) <|                                                                             -- END
    .ite (port_img.bind fun _ hx => .ite (ih (by simp [pinOk, h', hx])) .none) <|                 -- PORT
    .ite (pinDirection_img.bind fun _ hx => .ite (ih (by simp [pinOk, h', hx])) .none) <|         -- DIRECTION
    .ite ((parseEnum_img _).bind fun _ hx => .bind fun _ _ => ih (by simp [pinOk, h', hx])) <|    -- USE
    .ite ((parseEnum_img _).bind fun _ hx => .bind fun _ _ => ih (by simp [pinOk, h', hx])) <|    -- SHAPE
    .ite ((parseEnum_img _).bind fun _ hx => .bind fun _ _ => ih (by simp [pinOk, h', hx])) <|    -- ANTENNAMODEL
    .dite (fun hc => .bind fun key hkey => number_img.bind fun v hv =>                            -- ANTENNA… value [LAYER name] ;
      have ha l := antenna_ok key.1 k v.1 l (peekKey_getName _ _ _ _ hk hkey) hc hv
      .ite (ih (by simp [pinOk, h', ha])) <|
      .bind fun _ _ => .bind fun _ _ => .bind fun _ _ => ih (by simp [pinOk, h', ha])) fun _ =>
    -- TAPERRULE, MUSTJOIN, SUPPLYSENSITIVITY, GROUNDSENSITIVITY, NETEXPR, PROPERTY set fields `pinOk` does not look at
    .ite (.bind fun _ _ => .bind fun _ _ => ih h) <|
    .ite (.bind fun _ _ => .bind fun _ _ => ih h) <|
    .ite (.bind fun _ _ => .bind fun _ _ => ih h) <|
    .ite (.bind fun _ _ => .bind fun _ _ => ih h) <|
    .ite (.bind fun _ _ => .bind fun _ _ => ih h) <|
    .ite (.bind fun _ _ => .ite (ih h) .none) .none

theorem pin_img : Img (pinOk · = true) pin := fun _ =>
  .bind fun _ _ => .bind fun _ _ => .bind fun _ hb => .bind fun _ _ =>
    -- `( … :)`: elaborated against the goal, the answer of `pinBody_img` would be taken for the pair that `pin` returns
    .some (by refine (pinBody_img _ _ _ ?_ _ hb :); simp [pinOk])

theorem obsBody_img : ∀ (f : Nat) (acc : List LayerGeoms) (ts : List Tok), acc.all lgOk = true → Ret (·.1.all lgOk = true) (obsBody f acc ts)
  | 0, _, _, _ => .none
  | f + 1, acc, ts, h => .ite (.some h) <| .peek fun _ _ =>
    .ite (layerGeoms_img.bind fun _ hl => .ite (obsBody_img f _ _ (by simp [h, hl])) .none) <| .ite (.some h) .none

theorem densityRects_img : ∀ (f : Nat) (acc : List DensityRect) (ts : List Tok), acc.all drOk = true → Ret (·.1.all drOk = true) (densityRects f acc ts)
  | 0, _, _, _ => .none
  | f + 1, acc, ts, h => .peek fun _ _ => .ite (.some h) <|
    .ite (point_img.bind fun _ ha => point_img.bind fun _ hb => number_img.bind fun _ hv => .bind fun _ _ =>
      densityRects_img f _ _ (by simp [h, drOk, ha, hb, hv])) .none

theorem densityBody_img : ∀ (f : Nat) (acc : List DensityGeoms) (ts : List Tok), acc.all dlOk = true → Ret (·.1.all dlOk = true) (densityBody f acc ts)
  | 0, _, _, _ => .none
  | f + 1, acc, ts, h => .peek fun _ _ =>
    .ite (.bind fun _ _ => .bind fun _ _ => .bind fun _ hr => .ite (densityBody_img f _ _ (by simp [h, dlOk, densityRects_img _ _ _ rfl _ hr])) .none) <|
    .ite (.some h) .none

theorem symmetries_img : ∀ (f : Nat) (acc : List String) (ts : List Tok), symOk acc = true → Ret (symOk ·.1 = true) (symmetries f acc ts)
  | 0, _, _, _ => .none
  | f + 1, acc, ts, h => .ite (.some h) <| (parseEnum_img _).bind fun _ he =>
    symmetries_img f _ _ (by simp only [symOk] at h; simp [symOk, h, he])

theorem sizeStmt_img : Img (sizeOk · = true) sizeStmt := fun _ =>
  .bind fun _ _ => number_img.bind fun _ hx => .bind fun _ _ => number_img.bind fun _ hy => .bind fun _ _ => .some (by simp [sizeOk, hx, hy])

theorem macroClass_img : Img (classOk · = true) macroClass := fun _ =>
  .bind fun _ _ => .bind fun c _ =>
    have sub (tb : String) (r : List Tok) (h : ∀ t, isVariant tb t = true → classOk (c.1, some t, false) = true) (h' : classOk (c.1, none, false) = true) :
        Ret (fun x => classOk x.1 = true) (if matchesTT .semi r then some ((c.1, none, false), r.tail)
          else (parseEnum tb r).bind fun (t, r) => (semi r).map fun (_, r) => ((c.1, some t, false), r)) :=
      .ite (.some h') <| (parseEnum_img _).bind fun _ ht => .map fun _ _ => h _ ht
    .dite (fun hc => sub _ _ (fun t ht => by simp [classOk, beq_iff_eq.1 hc, ht]) (by simp [classOk, beq_iff_eq.1 hc])) fun _ =>
    .dite (fun hc => sub _ _ (fun t ht => by simp [classOk, beq_iff_eq.1 hc, ht]) (by simp [classOk, beq_iff_eq.1 hc])) fun _ =>
    .dite (fun hc => sub _ _ (fun t ht => by simp [classOk, beq_iff_eq.1 hc, ht]) (by simp [classOk, beq_iff_eq.1 hc])) fun _ =>
    .dite (fun hc => (parseEnum_img _).bind fun _ ht => .map fun _ _ => by simp [classOk, beq_iff_eq.1 hc, ht]) fun _ =>
    .dite (fun hc => .ite (.some (by simp [classOk, beq_iff_eq.1 hc])) <| .bind fun _ _ => .map fun _ _ => by simp [classOk, beq_iff_eq.1 hc]) fun _ =>
    .dite (fun hc => .map fun _ _ => by simp [classOk, beq_iff_eq.1 hc]) fun _ => .none

/-- invariant of `macroBody`: the macro so far is well-formed, and SOURCE was accepted only at a version admitting it -/
def mInv (ver : Dec) (m : Macro) : Prop := macroOk m = true ∧ (m.source.isSome = true → v5p4.lt ver = false)

theorem macroBody_img (ver : Dec) : ∀ (f : Nat) (m : Macro) (ts : List Tok), mInv ver m → Ret (mInv ver ·.1) (macroBody ver f m ts)
  | 0, _, _, _ => .none
  | f + 1, m, ts, hm => .peek fun k hk => by
    have ih {m' r} := macroBody_img ver f m' r
    obtain ⟨hok, hsrc⟩ := hm
    have hok' := macroOk_iff.1 hok
    exact
    .ite (macroClass_img.bind fun _ hx => .ite (ih ⟨by simp [macroOk, hok', hx], hsrc⟩) .none) <|                -- CLASS
    .ite (.bind fun _ _ => .bind fun _ _ => .ite (ih ⟨hok, hsrc⟩) .none) <|                                      -- SITE
    .ite (.bind fun _ _ => .bind fun _ _ => .ite (ih ⟨hok, hsrc⟩) .none) <|                                      -- EEQ
    .ite (.bind fun _ _ => .ite (ih ⟨hok, hsrc⟩) .none) <|                                                       -- FIXEDMASK
    .ite (.bind fun _ _ => .ite (.ite (ih ⟨by simp [macroOk, hok', foreignOk], hsrc⟩) .none) <|                  -- FOREIGN cell [pt [orient]] ;
      point_img.bind fun _ hp => .ite (.ite (ih ⟨by simp [macroOk, hok', foreignOk, hp], hsrc⟩) .none) <|
      (parseEnum_img _).bind fun _ ho => .bind fun _ _ => .ite (ih ⟨by simp [macroOk, hok', foreignOk, hp, ho], hsrc⟩) .none) <|
    .ite (point_img.bind fun _ hx => .bind fun _ _ => .ite (ih ⟨by simp [macroOk, hok', hx], hsrc⟩) .none) <|    -- ORIGIN
    .ite (sizeStmt_img.bind fun _ hx => .ite (ih ⟨by simp [macroOk, hok', hx], hsrc⟩) .none) <|                  -- SIZE
    .ite (pin_img.bind fun _ hx => .ite (ih ⟨by simp [macroOk, hok', hx], hsrc⟩) .none) <|                       -- PIN
    .ite (.bind fun _ hx => .ite (ih ⟨by simp [macroOk, hok', obsBody_img _ _ _ rfl _ hx], hsrc⟩) .none) <|      -- OBS
    .ite (.bind fun _ _ => .ite (ih ⟨hok, hsrc⟩) .none) <|                                                       -- PROPERTY
    .ite (.bind fun _ hx => .ite (ih ⟨by simp [macroOk, hok', symmetries_img _ _ _ rfl _ hx], hsrc⟩) .none) <|   -- SYMMETRY
    .ite (.dite (fun _ => .none) fun hv => (parseEnum_img _).bind fun _ hx => .bind fun _ _ =>                   -- SOURCE, behind its version gate
      .ite (ih ⟨by simp [macroOk, hok', hx], fun _ => by simpa using hv⟩) .none) <|
    .ite (.bind fun _ hx => .ite (ih ⟨by simp [macroOk, hok', densOk, densityBody_img _ _ _ rfl _ hx], hsrc⟩) .none) <|  -- DENSITY
    .ite (.some ⟨hok, hsrc⟩) .none                                                                               -- END

theorem macro_img (ver : Dec) : Img (mInv ver) (macro_ ver) := fun _ =>
  .bind fun _ _ => .bind fun _ _ => .bind fun _ hb => .bind fun _ _ =>
    .some (by refine (macroBody_img ver _ _ _ ⟨?_, ?_⟩ _ hb :) <;> simp [macroOk])

theorem legalDbu_ok : legalDbu.all dbuOk = true := by decide +kernel

theorem dbuTryNew_img (d : LefEnum.Dec) (v : Int) (h : dbuTryNew d = some v) : dbuOk v = true :=
  List.all_eq_true.1 legalDbu_ok _ (c04_dbu_only_legal d v h).1

theorem unitsBody_img : ∀ (f : Nat) (u : Units) (ts : List Tok), unitsOk u = true → Ret (unitsOk ·.1 = true) (unitsBody f u ts)
  | 0, _, _, _ => .none
  | f + 1, u, ts, h => .key fun k r => by
    have h' := unitsOk_iff.1 h
    -- the seven `KEY UNIT value ;` statements
    have stmt {unit : String} {set : Dec × List Tok → Units} (hs : ∀ b, decOk b.1 = true → unitsOk (set b) = true) :
        Ret (unitsOk ·.1 = true) ((expectKey unit r).bind fun a => (number a.2).bind fun b => (semi b.2).bind fun c =>
          (some (set b)).bind fun u' => unitsBody f u' c.2) :=
      .bind fun _ _ => number_img.bind fun _ hd => .bind fun _ _ => .bind fun _ e => Option.some.inj e ▸ unitsBody_img f _ _ (hs _ hd)
    exact
    .ite (.bind fun _ _ => .bind fun _ _ => .bind fun _ _ => .bind fun _ hu => by                 -- DATABASE MICRONS
      obtain ⟨v, hv, rfl⟩ := Option.map_eq_some_iff.1 hu
      exact unitsBody_img f _ _ (by simp [unitsOk, h', dbuTryNew_img _ _ hv])) <|
    .ite (stmt fun _ hd => by simp [unitsOk, h', hd]) <| .ite (stmt fun _ hd => by simp [unitsOk, h', hd]) <|
    .ite (stmt fun _ hd => by simp [unitsOk, h', hd]) <| .ite (stmt fun _ hd => by simp [unitsOk, h', hd]) <|
    .ite (stmt fun _ hd => by simp [unitsOk, h', hd]) <| .ite (stmt fun _ hd => by simp [unitsOk, h', hd]) <|
    .ite (stmt fun _ hd => by simp [unitsOk, h', hd]) <|
    .ite (.map fun _ _ => h) .none                                                                -- END UNITS

def sbInv (b : SiteB) : Prop := optOk b.cls (isVariant "LefSiteClass") = true ∧ optOk b.size sizeOk = true ∧ optOk b.symmetry symOk = true

theorem siteBody_img (name : Str) : ∀ (f : Nat) (b : SiteB) (ts : List Tok), sbInv b → Ret (siteOk ·.1 = true) (siteBody name f b ts)
  | 0, _, _, _ => .none
  | f + 1, b, ts, ⟨i1, i2, i3⟩ => .peek fun _ _ =>
    .ite (.bind fun _ _ => by                                                                     -- END name: class and size must be there
      dsimp only; split
      · rename_i hc hs
        rw [hc] at i1; rw [hs] at i2
        exact .some (by simp [siteOk, optOk_some _ _ ▸ i1, optOk_some _ _ ▸ i2, i3])
      · exact .none) <|
    .ite ((parseEnum_img _).bind fun _ he => .bind fun _ _ => .ite (siteBody_img name f _ _ ⟨he, i2, i3⟩) .none) <|   -- CLASS
    .ite (.bind fun _ hs => .ite (siteBody_img name f _ _ ⟨i1, i2, symmetries_img _ _ _ rfl _ hs⟩) .none) <|         -- SYMMETRY
    .ite (sizeStmt_img.bind fun _ hs => .ite (siteBody_img name f _ _ ⟨i1, hs, i3⟩) .none) .none                     -- SIZE

theorem site_img : Img (siteOk · = true) site := fun _ =>
  .bind fun _ _ => .bind fun _ _ => siteBody_img _ _ _ _ ⟨rfl, rfl, rfl⟩

theorem viaMask_img : Img (maskOk · = true) viaMask := fun ts => by
  rw [viaMask_eq]
  exact .ite (.bind fun _ _ => .ite (.map fun _ hx => number_img _ _ hx) .none) (.some rfl)

theorem viaShape_img : Img (vshapeOk · = true) viaShape := fun _ =>
  .peek fun _ _ =>
    .ite (viaMask_img.bind fun _ hm => point_img.bind fun _ ha => point_img.bind fun _ hb => .bind fun _ _ =>
      .some (by simp [vshapeOk, hm, ha, hb])) <|
    .ite (viaMask_img.bind fun _ hm => .bind fun _ hps => .dite (fun _ => .none) fun _ => .bind fun _ _ =>
      .some (by simp [vshapeOk, hm, pointList_img _ _ _ hps]; omega)) .none

theorem viaShapes_img : ∀ (f : Nat) (acc : List ViaShape) (ts : List Tok), acc.all vshapeOk = true → Ret (·.1.all vshapeOk = true) (viaShapes f acc ts)
  | 0, _, _, _ => .none
  | f + 1, acc, ts, h => .ite (.some h) <| .peek fun _ _ => .ite (.some h) <|
    .ite (viaShape_img.bind fun _ hs => .ite (viaShapes_img f _ _ (by simp [h, hs])) .none) .none

theorem viaLayers_img : ∀ (f : Nat) (acc : List ViaLayer) (ts : List Tok), acc.all vlayerOk = true → Ret (·.1.all vlayerOk = true) (viaLayers f acc ts)
  | 0, _, _, _ => .none
  | f + 1, acc, ts, h => .peek fun _ _ =>
    .ite (.bind fun _ _ => .bind fun _ _ => .bind fun _ hs => .ite (viaLayers_img f _ _ (by simp [h, vlayerOk, viaShapes_img _ _ _ rfl _ hs])) .none)
      (.some h)

theorem num2_img : Img (d2Ok · = true) num2 := fun _ =>
  number_img.bind fun _ ha => .map fun _ hb => by simp [d2Ok, ha, number_img _ _ hb]

theorem num4_img : Img (d4Ok · = true) num4 := fun _ =>
  num2_img.bind fun _ h1 => .map fun _ h2 => by simp [d4Ok, d2Ok_iff.1 h1, d2Ok_iff.1 (num2_img _ _ h2)]

def gbInv (g : GenB) : Prop :=
  optOk g.cutSize d2Ok = true ∧ optOk g.cutSpacing d2Ok = true ∧ optOk g.enclosure d4Ok = true ∧
  optOk g.rowcol d2Ok = true ∧ optOk g.origin ptOk = true ∧ optOk g.offset d4Ok = true

theorem genViaBody_img : ∀ (f : Nat) (g : GenB) (ts : List Tok), gbInv g → Ret (gbInv ·.1) (genViaBody f g ts)
  | 0, _, _, _ => .none
  | f + 1, _, _, ⟨i1, i2, i3, i4, i5, i6⟩ => .peek fun _ _ =>
    have ih {g' r} := genViaBody_img f g' r
    .ite (num2_img.bind fun _ hv => .bind fun _ _ => ih ⟨hv, i2, i3, i4, i5, i6⟩) <|                              -- CUTSIZE
    .ite (.bind fun _ _ => .bind fun _ _ => .bind fun _ _ => .bind fun _ _ => ih ⟨i1, i2, i3, i4, i5, i6⟩) <|     -- LAYERS
    .ite (num2_img.bind fun _ hv => .bind fun _ _ => ih ⟨i1, hv, i3, i4, i5, i6⟩) <|                              -- CUTSPACING
    .ite (num4_img.bind fun _ hv => .bind fun _ _ => ih ⟨i1, i2, hv, i4, i5, i6⟩) <|                              -- ENCLOSURE
    .ite (num2_img.bind fun _ hv => .bind fun _ _ => ih ⟨i1, i2, i3, hv, i5, i6⟩) <|                              -- ROWCOL
    .ite (point_img.bind fun _ hv => .bind fun _ _ => ih ⟨i1, i2, i3, i4, hv, i6⟩) <|                             -- ORIGIN
    .ite (num4_img.bind fun _ hv => .bind fun _ _ => ih ⟨i1, i2, i3, i4, i5, hv⟩) <|                              -- OFFSET
    .ite (.some ⟨i1, i2, i3, i4, i5, i6⟩) .none                                                                   -- END

theorem viaDataP_img : Img (viaDataOk · = true) viaDataP := fun _ =>
  .bind fun _ _ => .ite
    (.bind fun _ _ => .bind fun _ _ => .bind fun g hg => by
      obtain ⟨i1, i2, i3, i4, i5, i6⟩ := genViaBody_img _ _ _ ⟨rfl, rfl, rfl, rfl, rfl, rfl⟩ _ hg
      dsimp only; split
      · rename_i e1 _ e3 e4
        rw [e1] at i1; rw [e3] at i2; rw [e4] at i3
        exact .some (by simp [viaDataOk, genOk, optOk_some _ _ ▸ i1, optOk_some _ _ ▸ i2, optOk_some _ _ ▸ i3, i4, i5, i6])
      · exact .none) <|
    have fixed {res : Option Dec} {r : List Tok} (hres : optOk res decOk = true) :
        Ret (viaDataOk ·.1 = true) ((viaLayers (r.length + 1) [] r).bind fun (ls, r) => some (ViaData.fixed res ls, r)) :=
      .bind fun _ hl => .some (by simp [viaDataOk, hres, viaLayers_img _ _ _ rfl _ hl])
    .ite (.bind fun x hx => by
      obtain ⟨_, hd, hx⟩ := Option.bind_eq_some_iff.1 hx
      obtain ⟨_, _, rfl⟩ := Option.map_eq_some_iff.1 hx
      exact fixed (number_img _ _ hd)) (.bind fun x hx => by cases hx; exact fixed rfl)

theorem viaDef_img : Img (viaOk · = true) viaDef := fun _ =>
  .bind fun _ _ => .bind fun _ _ => .bind fun _ _ => viaDataP_img.bind fun _ hd => .bind fun _ _ =>
    .ite (.bind fun _ _ => .some hd) .none

theorem propDefTail_img : Img (fun x => optOk x.1 decOk = true ∧ optOk x.2 d2Ok = true) propDefTail := fun _ =>
  have value {range : Option (Dec × Dec)} (hr : optOk range d2Ok = true) {o : Option (Option Dec × List Tok)}
      (ho : Ret (optOk ·.1 decOk = true) o) :
      Ret (fun x => optOk x.1.1 decOk = true ∧ optOk x.1.2 d2Ok = true)
        (o.bind fun (value, r) => (semi r).bind fun (_, r) => some ((value, range), r)) :=
    .bind fun _ hv => .bind fun _ _ => .some ⟨ho _ hv, hr⟩
  have range {o : Option (Option (Dec × Dec) × List Tok)} (ho : Ret (optOk ·.1 d2Ok = true) o) :
      Ret (fun x => optOk x.1.1 decOk = true ∧ optOk x.1.2 d2Ok = true) (o.bind fun (range, r) =>
        if matchesTT .number r = true then ((number r).map fun (d, r) => (some d, r)).bind fun (value, r) => (semi r).bind fun (_, r) => some ((value, range), r)
        else (some (none, r)).bind fun (value, r) => (semi r).bind fun (_, r) => some ((value, range), r)) :=
    -- `by exact`: the goal is known only once `value` has been matched against the routine
    .bind fun _ hr => .ite (value (ho _ hr) (.map fun _ hd => by exact number_img _ _ hd)) (value (ho _ hr) (.some rfl))
  .ite (range (.bind fun _ _ => .map fun _ hn => by exact num2_img _ _ hn)) (range (.some rfl))

theorem propDefs_img : ∀ (f : Nat) (acc : List PropDef) (ts : List Tok), acc.all pdOk = true → Ret (·.1.all pdOk = true) (propDefs f acc ts)
  | 0, _, _, _ => .none
  | f + 1, acc, ts, h => .peek fun _ _ =>
    have ih {acc' r} := propDefs_img f acc' r
    .ite ((parseEnum_img _).bind fun _ ho => .bind fun _ _ => .bind fun _ _ =>
      .ite (.ite (ih (by simp [h, pdOk, ho])) <| .bind fun _ _ => .bind fun _ _ => ih (by simp [h, pdOk, ho])) <|  -- STRING [value] ;
      .ite (propDefTail_img.bind fun _ ht => ih (by simp [h, pdOk, ho, ht.1, ht.2])) <|                            -- REAL
      .ite (propDefTail_img.bind fun _ ht => ih (by simp [h, pdOk, ho, ht.1, ht.2])) .none) <|                     -- INTEGER
    .ite (.map fun _ _ => h) .none                                                                                 -- END PROPERTYDEFINITIONS

/-- invariant of `libBody`: the library so far is well-formed, the session version is the last VERSION read (or the
    default), and 5.4-only statements were accepted only at a version admitting them -/
def lInv (ver : Dec) (l : Lib) : Prop :=
  libOkNoExt l = true ∧ ver = l.version.getD ⟨58, 1⟩ ∧ (l.namesCaseSensitive.isSome = true → v5p4.lt ver = false) ∧
  (∀ m ∈ l.macros, m.source.isSome = true → v5p4.lt ver = false)

theorem libBody_img : ∀ (f : Nat) (ver : Dec) (lib : Lib) (ts : List Tok), lInv ver lib → Ret (fun l => ∃ ver', lInv ver' l) (libBody f ver lib ts)
  | 0, _, _, _, _ => .none
  | f + 1, ver, lib, ts, hl => .ite (.some ⟨ver, hl⟩) <| .peek fun k hk => by
    have ih {ver' lib' r} := libBody_img f ver' lib' r
    obtain ⟨hok, hver, hncs, hsrc⟩ := hl
    have hok' := libOkNoExt_iff.1 hok
    -- statements that leave the version, NAMESCASESENSITIVE and the macros as they are
    have same {lib'} (h : libOkNoExt lib' = true) (h1 : lib'.version = lib.version) (h2 : lib'.namesCaseSensitive = lib.namesCaseSensitive)
        (h3 : lib'.macros = lib.macros) : lInv ver lib' := ⟨h, h1 ▸ hver, h2 ▸ hncs, h3 ▸ hsrc⟩
    exact
    .ite ((macro_img ver).bind fun x hx => .ite (ih ⟨by simp [libOkNoExt, hok', hx.1], hver, hncs, fun m' hm' hs =>        -- MACRO
      (List.mem_append.1 hm').elim (hsrc m' · hs) fun hin => by simp only [List.mem_singleton] at hin; subst hin; exact hx.2 hs⟩) .none) <|
    .ite (number_img.bind fun d hd => .bind fun _ _ => .dite (fun hc => by                         -- VERSION, behind its gate
        simp only [Bool.and_eq_true, Bool.not_eq_true', Bool.and_eq_false_iff, Bool.or_eq_false_iff] at hc
        refine ih ⟨by simp [libOkNoExt, hok', verOk, hd, hc.1], rfl, fun hs => ?_, fun m hm hs => ?_⟩
        · rcases hc.2 with hg | hg
          · exact hg
          · rw [hg.1] at hs; cases hs
        · rcases hc.2 with hg | hg
          · exact hg
          · have := List.any_eq_false.1 hg.2 m hm
            simp [hs] at this) fun _ => .none) <|
    .ite (.bind fun x _ => by                                                                      -- BUSBITCHARS
      dsimp only; split
      · exact .bind fun _ _ => ih (same hok rfl rfl rfl)
      · exact .none) <|
    .ite (.bind fun x _ => by                                                                      -- DIVIDERCHAR
      dsimp only; split
      · exact .bind fun _ _ => ih (same hok rfl rfl rfl)
      · exact .none) <|
    .ite (.dite (fun _ => .none) fun hv => (parseEnum_img _).bind fun _ hx => .bind fun _ _ =>     -- NAMESCASESENSITIVE, behind its gate
      ih ⟨by simp [libOkNoExt, hok', hx], hver, fun _ => by simpa using hv, hsrc⟩) <|
    .ite ((parseEnum_img _).bind fun _ hx => .bind fun _ _ =>                                      -- NOWIREEXTENSIONATPIN
      ih (same (by simp [libOkNoExt, hok', hx]) rfl rfl rfl)) <|
    .ite (.bind fun x hx => .ite                                                                   -- UNITS
      (ih (same (by simp [libOkNoExt, hok', unitsBody_img _ _ _ rfl _ hx]) rfl rfl rfl)) .none) <|
    .ite (site_img.bind fun _ hx => .ite (ih (same (by simp [libOkNoExt, hok', hx]) rfl rfl rfl)) .none) <|   -- SITE
    .ite (.map fun _ _ => ⟨ver, hok, hver, hncs, hsrc⟩) <|                                         -- END LIBRARY
    .ite (.bind fun _ _ => ih (same hok rfl rfl rfl)) <|                                           -- FIXEDMASK
    .ite (.bind fun _ _ => (parseEnum_img _).bind fun _ hx => .bind fun _ _ =>                     -- USEMINSPACING OBS
      ih (same (by simp [libOkNoExt, hok', hx]) rfl rfl rfl)) <|
    .ite (viaDef_img.bind fun _ hx => .ite (ih (same (by simp [libOkNoExt, hok', hx]) rfl rfl rfl)) .none) <| -- VIA
    .ite ((parseEnum_img _).bind fun _ hx => .bind fun _ _ =>                                      -- CLEARANCEMEASURE
      ih (same (by simp [libOkNoExt, hok', hx]) rfl rfl rfl)) <|
    .ite (number_img.bind fun _ hx => .bind fun _ _ =>                                             -- MANUFACTURINGGRID
      ih (same (by simp [libOkNoExt, hok', hx]) rfl rfl rfl)) <|
    .ite (.bind fun _ _ => .bind fun _ _ => .ite (ih (same hok rfl rfl rfl)) .none) <|             -- BEGINEXT
    .ite (.bind fun x hx => .ite                                                                   -- PROPERTYDEFINITIONS
      (ih (same (by simp [libOkNoExt, hok', propDefs_img _ _ _ rfl _ hx]) rfl rfl rfl)) .none) .none

theorem mapMOpt_some {α β : Type} {f : α → Option β} {g : α → β} {l : List α} (h : ∀ a ∈ l, f a = some (g a)) :
    mapMOpt f l = some (l.map g) := by
  rw [mapMOpt_eq_some_iff, List.map_map]; exact List.map_congr_left h

theorem wLib_of_gate (l : Lib) (hn : l.namesCaseSensitive.isSome = true → v5p4.lt (l.version.getD ⟨58, 1⟩) = false)
    (hs : ∀ m ∈ l.macros, m.source.isSome = true → v5p4.lt (l.version.getD ⟨58, 1⟩) = false) : ∃ toks, wLib l = some toks := by
  unfold wLib
  simp only [Bool.and_eq_false_imp.2 hn, mapMOpt_some fun m hm => wMacro_of_gate _ m (Bool.and_eq_false_imp.2 (hs m hm)), Bool.false_eq_true,
    if_false]
  exact ⟨_, rfl⟩

end L21.Lef
