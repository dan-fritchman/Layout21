import L21.Model.LefLex
/-
The lexer model, for C04, C05 and C11.  One step of `lexFrom` (and of the bookkeeping lexer `lexStFrom`,
`Model/LefState.lean`) splits a non-empty chunk off the text: a run of white space or a comment, which is skipped, or the
characters of exactly one token (`chunkOf`, `lexFrom_succ`).  From it: every token span is a run of whole characters, and
the step budget suffices.
-/
namespace L21.LefLexRT
open L21.LefLex

theorem spanP_split (p : Char → Bool) : ∀ (l : List Char), (spanP p l).1 ++ (spanP p l).2 = l ∧ (spanP p l).1.all p = true := by
  intro l
  induction l with
  | nil => simp [spanP]
  | cons c r ih =>
    by_cases h : p c = true
    · simp [spanP, h, ih.1, ih.2]
    · simp [spanP, h]

def numStart (c : Char) : Bool := isDigit c || c == '.' || c == '-' || c == '+'

end L21.LefLexRT

namespace L21.LefLex
open L21.LefLexRT (numStart)

theorem spanP_append_stop (p : Char → Bool) : ∀ (a X : List Char), a.all p = true → (∀ c, X.head? = some c → p c = false) →
    spanP p (a ++ X) = (a, X) := by
  intro a
  induction a with
  | nil =>
    intro X _ hX
    cases X with
    | nil => rfl
    | cons c r => have := hX c rfl; simp [spanP, this]
  | cons c a ih =>
    intro X ha hX
    simp only [List.all_cons, Bool.and_eq_true] at ha
    simp [spanP, ha.1, ih X ha.2 hX]

theorem spanP_within (p : Char → Bool) : ∀ (w X : List Char), (∀ c, X.head? = some c → p c = false) →
    ∃ a b, w = a ++ b ∧ spanP p (w ++ X) = (a, b ++ X) ∧ a.all p = true := by
  intro w
  induction w with
  | nil => exact fun X hX => ⟨[], [], rfl, spanP_append_stop p [] X rfl hX, rfl⟩
  | cons c w ih =>
    intro X hX
    by_cases h : p c = true
    · obtain ⟨a, b, e, hs, ha⟩ := ih X hX
      refine ⟨c :: a, b, by simp [e], ?_, by simp [h, ha]⟩
      simp [spanP, h, hs]
    · exact ⟨[], c :: w, rfl, by simp [spanP, h], rfl⟩

theorem bytes_append (a b : List Char) : bytes (a ++ b) = bytes a + bytes b := by simp [bytes]
theorem bytes_cons (c : Char) (a : List Char) : bytes (c :: a) = c.utf8Size + bytes a := by simp [bytes]
@[simp] theorem usz_hash : '#'.utf8Size = 1 := by decide

/-- first chunk of `c :: rest`, the text behind it, and the type of the token it makes (if any);
    a closing quote, if there is one, belongs to the string -/
def chunkOf (isWs : Char → Bool) (c : Char) (rest : List Char) : List Char × List Char × Option TT :=
  if c == '\n' || isWs c then
    let run := if c == '\n' then ([], rest) else spanP (fun d => isAsciiWs d && d != '\n') rest
    (c :: run.1, run.2, none)
  else if c == ';' then ([c], rest, some .semi)
  else if c == '"' then
    let sp := spanP (fun d => d != '"') rest
    (c :: (sp.1 ++ sp.2.take 1), sp.2.drop 1, some .string)
  else if c == '#' then
    let sp := spanP (fun d => d != '\n') rest
    (c :: sp.1, sp.2, none)
  else
    let sp := spanP (fun d => !isWs d) rest
    (c :: sp.1, sp.2,
      some (if numStart c && isNumberText (c :: sp.1) then .number else .name))

def emit (k : Option TT) (start stop : Nat) : Out (List Tok) → Out (List Tok)
  | .ok ts => .ok (match k with | some tt => ⟨tt, start, stop⟩ :: ts | none => ts)
  | .err => .err

/-- cases in the order of `lexFrom`'s tests; `b` = its two word branches.
    `by_cases` + `rw [if_pos _]`: `split` traverses the whole goal at every branch -/
theorem chunkOf_cases (isWs : Char → Bool) (c : Char) (rest : List Char) {G : Prop}
    (ws : (c == '\n' || isWs c) = true →
      chunkOf isWs c rest = (let run := if c == '\n' then ([], rest) else spanP (fun d => isAsciiWs d && d != '\n') rest
        (c :: run.1, run.2, none)) → G)
    (semi : ¬(c == '\n' || isWs c) = true → (c == ';') = true → chunkOf isWs c rest = ([c], rest, some .semi) → G)
    (str : ¬(c == '\n' || isWs c) = true → ¬(c == ';') = true → (c == '"') = true →
      chunkOf isWs c rest = (let sp := spanP (fun d => d != '"') rest
        (c :: (sp.1 ++ sp.2.take 1), sp.2.drop 1, some .string)) → G)
    (comment : ¬(c == '\n' || isWs c) = true → ¬(c == ';') = true → ¬(c == '"') = true → (c == '#') = true →
      chunkOf isWs c rest = (let sp := spanP (fun d => d != '\n') rest
        (c :: sp.1, sp.2, none)) → G)
    (word : ¬(c == '\n' || isWs c) = true → ¬(c == ';') = true → ¬(c == '"') = true → ¬(c == '#') = true →
      ∀ b, numStart c = b →
      chunkOf isWs c rest = (let sp := spanP (fun d => !isWs d) rest
        (c :: sp.1, sp.2, some (if b && isNumberText (c :: sp.1) then .number else .name))) → G) : G := by
  by_cases h1 : (c == '\n' || isWs c) = true
  · exact ws h1 (by rw [chunkOf, if_pos h1])
  by_cases h2 : (c == ';') = true
  · exact semi h1 h2 (by rw [chunkOf, if_neg h1, if_pos h2])
  by_cases h3 : (c == '"') = true
  · exact str h1 h2 h3 (by rw [chunkOf, if_neg h1, if_neg h2, if_pos h3])
  by_cases h4 : (c == '#') = true
  · exact comment h1 h2 h3 h4 (by rw [chunkOf, if_neg h1, if_neg h2, if_neg h3, if_pos h4])
  · exact word h1 h2 h3 h4 _ rfl (by rw [chunkOf, if_neg h1, if_neg h2, if_neg h3, if_neg h4])

theorem chunkOf_append (isWs : Char → Bool) (c : Char) (rest : List Char) :
    (chunkOf isWs c rest).1 ++ (chunkOf isWs c rest).2.1 = c :: rest ∧ ∃ t, (chunkOf isWs c rest).1 = c :: t := by
  have sp := fun p => (LefLexRT.spanP_split p rest).1
  refine chunkOf_cases isWs c rest (fun _ e => ?_) (fun _ _ e => ?_) (fun _ _ _ e => ?_) (fun _ _ _ _ e => ?_)
    (fun _ _ _ _ _ _ e => ?_) <;> rw [e] <;> dsimp only
  · refine ⟨congrArg (c :: ·) ?_, _, rfl⟩
    split
    · rfl
    · exact sp _
  · exact ⟨rfl, _, rfl⟩
  · exact ⟨by rw [List.cons_append, List.append_assoc, List.take_append_drop, sp], _, rfl⟩
  · exact ⟨congrArg _ (sp _), _, rfl⟩
  · exact ⟨congrArg _ (sp _), _, rfl⟩

theorem chunkOf_rest_le (isWs : Char → Bool) (c : Char) (rest : List Char) : (chunkOf isWs c rest).2.1.length ≤ rest.length := by
  obtain ⟨h, t, ht⟩ := chunkOf_append isWs c rest
  have := congrArg List.length h
  rw [ht] at this
  simp only [List.length_append, List.length_cons] at this
  omega

theorem chunkOf_word (isWs : Char → Bool) (c : Char) (body X : List Char) (h1 : isWs c = false) (hnl : c ≠ '\n')
    (h2 : c ≠ ';') (h3 : c ≠ '"') (h4 : c ≠ '#') (hb : body.all (fun d => !isWs d) = true)
    (hX : ∀ d, X.head? = some d → isWs d = true) :
    chunkOf isWs c (body ++ X) = (c :: body, X,
      some (if numStart c && isNumberText (c :: body) then .number else .name)) := by
  have hsp : spanP (fun d => !isWs d) (body ++ X) = (body, X) :=
    spanP_append_stop _ body _ hb (by intro d hd; simp [hX d hd])
  simp only [chunkOf, h1, beq_eq_false_iff_ne.2 hnl, beq_eq_false_iff_ne.2 h2, beq_eq_false_iff_ne.2 h3,
    beq_eq_false_iff_ne.2 h4, Bool.or_self, Bool.false_eq_true, if_false, hsp]

theorem lexFrom_succ (isWs : Char → Bool) (fuel pos : Nat) (c : Char) (rest : List Char) :
    lexFrom isWs (fuel + 1) pos (c :: rest) =
      emit (chunkOf isWs c rest).2.2 pos (pos + bytes (chunkOf isWs c rest).1)
        (lexFrom isWs fuel (pos + bytes (chunkOf isWs c rest).1) (chunkOf isWs c rest).2.1) := by
  rw [lexFrom]
  refine chunkOf_cases isWs c rest (fun h1 e => ?_) (fun h1 h2 e => ?_) (fun h1 h2 h3 e => ?_) (fun h1 h2 h3 h4 e => ?_)
    (fun h1 h2 h3 h4 b h5 e => ?_) <;> rw [e]
  · rw [if_pos h1]
    simp only [bytes_cons, Nat.add_assoc]; cases lexFrom isWs fuel _ _ <;> rfl
  · rw [if_neg h1, if_pos h2, beq_iff_eq.1 h2]; rfl
  · rw [if_neg h1, if_neg h2, if_pos h3, beq_iff_eq.1 h3]
    generalize spanP (fun d => d != '"') rest = sp
    obtain ⟨body, after⟩ := sp
    simp only [bytes_cons, bytes_append, Nat.add_assoc]
    cases after <;> rfl
  · rw [if_neg h1, if_neg h2, if_neg h3, if_pos h4, beq_iff_eq.1 h4]
    simp only [bytes_cons, Nat.add_assoc, usz_hash]
    cases lexFrom isWs fuel _ _ <;> rfl
  · rw [if_neg h1, if_neg h2, if_neg h3, if_neg h4, ← numStart, h5]
    simp only [bytes_cons, Nat.add_assoc]
    cases b <;> rfl

/-- a token occupies exactly the bytes of a contiguous non-empty run of characters of `src`,
    which starts at byte offset `pos` -/
def IsSub (pos : Nat) (src : List Char) (t : Tok) : Prop :=
  ∃ pre mid suf, src = pre ++ mid ++ suf ∧ mid ≠ [] ∧ t.start = pos + bytes pre ∧ t.stop = t.start + bytes mid

theorem IsSub.shift {pos : Nat} {src : List Char} {t : Tok} (skipped : List Char)
    (h : IsSub (pos + bytes skipped) src t) : IsSub pos (skipped ++ src) t := by
  obtain ⟨pre, mid, suf, e, hm, hs, he⟩ := h
  exact ⟨skipped ++ pre, mid, suf, by rw [e]; simp [List.append_assoc], hm, by rw [hs, bytes_append]; omega, he⟩

theorem lexFrom_sub (isWs : Char → Bool) : ∀ (fuel pos : Nat) (src : List Char) (ts : List Tok),
    lexFrom isWs fuel pos src = .ok ts → ∀ t ∈ ts, IsSub pos src t
  | 0, _, _, _, h, _, _ => nomatch h
  | _ + 1, _, [], ts, h, t, ht => by cases h; cases ht
  | fuel + 1, pos, c :: rest, ts, h, t, ht => by
    obtain ⟨hsrc, tl, hc⟩ := chunkOf_append isWs c rest
    rw [lexFrom_succ] at h
    generalize chunkOf isWs c rest = ch at h hsrc hc
    obtain ⟨chunk, rest', k⟩ := ch
    rw [← hsrc]
    cases hr : lexFrom isWs fuel (pos + bytes chunk) rest' with
    | err => rw [hr] at h; cases h
    | ok ts' =>
      have ih : t ∈ ts' → IsSub pos (chunk ++ rest') t := fun h' => (lexFrom_sub isWs _ _ _ _ hr t h').shift chunk
      rw [hr] at h; cases h
      cases k with
      | none => exact ih ht
      | some tt =>
        rcases List.mem_cons.1 ht with rfl | ht
        · exact ⟨[], chunk, rest', rfl, by simp only at hc; simp [hc], rfl, rfl⟩
        · exact ih ht

theorem lexFrom_total (isWs : Char → Bool) : ∀ (fuel pos : Nat) (src : List Char),
    src.length < fuel → ∃ ts, lexFrom isWs fuel pos src = .ok ts
  | 0, _, _, h => by omega
  | _ + 1, _, [], _ => ⟨[], rfl⟩
  | fuel + 1, pos, c :: rest, h => by
    obtain ⟨ts, e⟩ := lexFrom_total isWs fuel (pos + bytes (chunkOf isWs c rest).1) (chunkOf isWs c rest).2.1
      (Nat.lt_of_le_of_lt (chunkOf_rest_le isWs c rest) (Nat.lt_of_succ_lt_succ h))
    rw [lexFrom_succ, e]
    exact ⟨_, rfl⟩

end L21.LefLex
