import L21.Model.Lef
import L21.Proofs.LefLex
/-
`tokens_layout`: the lexer returns the tokens a `Layout` was laid out from.  A `Layout` is a token list with a `Sep` in
front and one after every token; a `Sep` is any run of white space (every Unicode White_Space character) interleaved with
`#` comments, each closed by a line feed.  `Layout.ok`: every token is a lexeme of its type (`tokWf`) and a word is
followed by white space or the end (`gapOk`).
-/
namespace L21.LefLexRT
open L21.LefLex L21.Lef

abbrev W := isWsUnicode

@[simp] theorem bytes_nil : bytes [] = 0 := rfl

/-- from byte `pos` the text `X` lexes to `R`, whatever the budget above its length -/
def LexTo (pos : Nat) (X : List Char) (R : List LefLex.Tok) : Prop :=
  ∀ fuel, X.length < fuel → lexFrom W fuel pos X = .ok R

theorem LexTo_nil (pos : Nat) : LexTo pos [] [] := by
  intro fuel h
  cases fuel with
  | zero => omega
  | succ f => simp [lexFrom]

theorem LexTo.step {pos : Nat} {c : Char} {rest chunk rest' : List Char} {k : Option TT} {R : List LefLex.Tok}
    (hch : chunkOf W c rest = (chunk, rest', k)) (h : LexTo (pos + bytes chunk) rest' R) :
    LexTo pos (c :: rest) (k.elim R fun tt => ⟨tt, pos, pos + bytes chunk⟩ :: R) := by
  intro fuel hf
  cases fuel with
  | zero => omega
  | succ f =>
    have hl := chunkOf_rest_le W c rest
    rw [hch] at hl
    rw [lexFrom_succ, hch, h f (Nat.lt_of_le_of_lt hl (Nat.lt_of_succ_lt_succ hf))]
    cases k <;> rfl

def headNotWs (X : List Char) : Prop := ∀ c, X.head? = some c → W c = false

theorem asciiRun_ws (d : Char) (h : (isAsciiWs d && d != '\n') = true) : W d = true := by
  simp only [Bool.and_eq_true, isAsciiWs, Bool.or_eq_true, beq_iff_eq] at h
  rcases h.1 with ((((h | h) | h) | h) | h) <;> subst h <;> decide

theorem nl_ws : W '\n' = true := by decide

/-- induction on a bound of the length, not on `w`: one step of the lexer takes a white-space character together with
    the run of ASCII white space behind it -/
theorem skip_ws (X : List Char) (R : List LefLex.Tok) (hX : headNotWs X) : ∀ (n : Nat) (w : List Char), w.length ≤ n → w.all W = true →
    ∀ pos, LexTo (pos + bytes w) X R → LexTo pos (w ++ X) R := by
  intro n
  induction n with
  | zero =>
    intro w hn _ pos h
    have : w = [] := List.eq_nil_of_length_eq_zero (by omega)
    subst this; simpa using h
  | succ n ih =>
    intro w hn hw pos h
    cases w with
    | nil => simpa using h
    | cons c w =>
      simp only [List.all_cons, Bool.and_eq_true] at hw
      simp only [List.length_cons] at hn
      by_cases hnl : (c == '\n') = true
      · have hch : chunkOf W c (w ++ X) = ([c], w ++ X, none) := by simp [chunkOf, hnl]
        exact LexTo.step hch (ih w (by omega) hw.2 _ (by simpa [bytes_cons, Nat.add_assoc] using h))
      · obtain ⟨a, b, e, hs, ha⟩ := spanP_within (fun d => isAsciiWs d && d != '\n') w X (by
          intro d hd
          have := hX d hd
          cases hq : (isAsciiWs d && d != '\n') with
          | false => rfl
          | true => rw [asciiRun_ws d hq] at this; cases this)
        have hch : chunkOf W c (w ++ X) = (c :: a, b ++ X, none) := by simp [chunkOf, hw.1, hnl, hs]
        subst e
        simp only [List.all_append, Bool.and_eq_true] at hw
        simp only [List.length_append] at hn
        exact LexTo.step hch (ih b (by omega) hw.2.2 _ (by simpa [bytes_cons, bytes_append, Nat.add_assoc] using h))

/-- a separator: white space and `#` comments, `w0 # body1 \n w1 # body2 \n w2 …` -/
structure Sep where
  w0 : List Char
  segs : List (List Char × List Char)
  deriving Repr

def segsText : List (List Char × List Char) → List Char
  | [] => []
  | (b, w) :: r => '#' :: b ++ '\n' :: w ++ segsText r

def Sep.text (s : Sep) : List Char := s.w0 ++ segsText s.segs

def segsOk (l : List (List Char × List Char)) : Bool := l.all fun (b, w) => b.all (· != '\n') && w.all W
def Sep.ok (s : Sep) : Bool := s.w0.all W && segsOk s.segs

theorem skip_segs (X : List Char) (R : List LefLex.Tok) (hX : headNotWs X) : ∀ (segs : List (List Char × List Char)) (w0 : List Char),
    w0.all W = true → segsOk segs = true →
    ∀ pos, LexTo (pos + bytes (w0 ++ segsText segs)) X R → LexTo pos (w0 ++ segsText segs ++ X) R := by
  intro segs
  induction segs with
  | nil =>
    intro w0 hw _ pos h
    simp only [segsText, List.append_nil] at h ⊢
    exact skip_ws X R hX _ w0 (Nat.le_refl _) hw pos h
  | cons s segs ih =>
    intro w0 hw hs pos h
    obtain ⟨b, w⟩ := s
    simp only [segsOk, List.all_cons, Bool.and_eq_true] at hs
    have hs2 : segsOk segs = true := hs.2
    simp only [segsText, List.append_assoc]
    refine skip_ws _ R ?_ _ w0 (Nat.le_refl _) hw pos ?_
    · intro c hc; simp at hc; subst hc; decide
    · have hch : chunkOf W '#' (b ++ '\n' :: (w ++ (segsText segs ++ X))) = ('#' :: b, '\n' :: (w ++ (segsText segs ++ X)), none) := by
        have hsp := spanP_append_stop (fun d => d != '\n') b ('\n' :: (w ++ (segsText segs ++ X))) hs.1.1
          (by intro c hc; simp at hc; subst hc; rfl)
        simp [chunkOf, hsp, W, isWsUnicode]
      refine LexTo.step hch ?_
      have e : pos + bytes w0 + bytes ('#' :: b) + bytes ('\n' :: w ++ segsText segs) = pos + bytes (w0 ++ segsText ((b, w) :: segs)) := by
        simp only [segsText, bytes_append, bytes_cons]; omega
      have := ih ('\n' :: w) (by simp [nl_ws, hs.1.2]) hs2 (pos + bytes w0 + bytes ('#' :: b)) (e ▸ h)
      simpa [List.append_assoc] using this

theorem skip_sep (X : List Char) (R : List LefLex.Tok) (hX : headNotWs X) (s : Sep) (hs : s.ok = true) (pos : Nat)
    (h : LexTo (pos + bytes s.text) X R) : LexTo pos (s.text ++ X) R := by
  simp only [Sep.ok, Bool.and_eq_true] at hs
  exact skip_segs X R hX s.segs s.w0 hs.1 hs.2 pos h

/-- `c :: body` is lexed as one word starting at `c` -/
def wordOk (c : Char) (body : List Char) : Bool :=
  !W c && c != ';' && c != '"' && c != '#' && body.all (fun d => !W d)

def strBodyOk (r : List Char) : Bool := r.getLast? == some '"' && r.dropLast.all (· != '"')
/-- (type, text) is a LEF lexeme of that type -/
def tokWf (t : Lef.Tok) : Bool :=
  match t.tt with
  | .semi => t.txt == [';']
  | .string => match t.txt with
    | c :: r => c == '"' && strBodyOk r
    | [] => false
  | .name => match t.txt with
    | c :: body => wordOk c body && !(numStart c && isNumberText (c :: body))
    | [] => false
  | .number => match t.txt with
    | c :: body => wordOk c body && numStart c && isNumberText (c :: body)
    | [] => false

def isWord (t : Lef.Tok) : Bool := t.tt == .name || t.tt == .number

theorem tokWf_cases {t : Lef.Tok} (h : tokWf t = true) :
    t = ⟨.semi, [';']⟩ ∨ (∃ body, t = ⟨.string, '"' :: body ++ ['"']⟩ ∧ body.all (· != '"') = true) ∨
    ∃ c body, t = ⟨if numStart c && isNumberText (c :: body) then .number else .name, c :: body⟩ ∧ wordOk c body = true := by
  obtain ⟨tt, txt⟩ := t
  cases tt with
  | semi => exact .inl (congrArg _ (beq_iff_eq.1 h))
  | string =>
    cases txt with
    | nil => cases h
    | cons q r =>
      simp only [tokWf, strBodyOk, Bool.and_eq_true, beq_iff_eq] at h
      obtain ⟨rfl, hl, hb⟩ := h
      have hne : r ≠ [] := fun e => by rw [e] at hl; cases hl
      rw [List.getLast?_eq_some_getLast hne, Option.some.injEq] at hl
      exact .inr (.inl ⟨r.dropLast, by rw [List.cons_append, ← hl, List.dropLast_concat_getLast hne], hb⟩)
  | name =>
    cases txt with
    | nil => cases h
    | cons c body =>
      simp only [tokWf, Bool.and_eq_true, Bool.not_eq_true'] at h
      exact .inr (.inr ⟨c, body, by rw [h.2]; rfl, h.1⟩)
  | number =>
    cases txt with
    | nil => cases h
    | cons c body =>
      simp only [tokWf, Bool.and_eq_true] at h
      exact .inr (.inr ⟨c, body, by rw [h.1.2, h.2]; rfl, h.1.1⟩)

theorem lex_semi (pos : Nat) (X : List Char) (R : List LefLex.Tok) (h : LexTo (pos + bytes [';']) X R) :
    LexTo pos (';' :: X) (⟨.semi, pos, pos + bytes [';']⟩ :: R) :=
  LexTo.step (k := some .semi) (by simp [chunkOf, W, isWsUnicode]) h

theorem lex_string (pos : Nat) (body X : List Char) (R : List LefLex.Tok) (hb : body.all (· != '"') = true)
    (h : LexTo (pos + bytes ('"' :: body ++ ['"'])) X R) :
    LexTo pos ('"' :: body ++ ['"'] ++ X) (⟨.string, pos, pos + bytes ('"' :: body ++ ['"'])⟩ :: R) := by
  have hsp : spanP (fun d => d != '"') (body ++ ('"' :: X)) = (body, '"' :: X) :=
    spanP_append_stop _ body _ hb (by intro c hc; simp at hc; subst hc; rfl)
  have hch : chunkOf W '"' (body ++ '"' :: X) = ('"' :: (body ++ ['"']), X, some .string) := by
    simp [chunkOf, hsp, W, isWsUnicode]
  simpa using LexTo.step hch (by simpa using h)

theorem lex_word (pos : Nat) (c : Char) (body X : List Char) (R : List LefLex.Tok) (hw : wordOk c body = true)
    (hX : ∀ d, X.head? = some d → W d = true)
    (h : LexTo (pos + bytes (c :: body)) X R) :
    LexTo pos (c :: body ++ X)
      (⟨if numStart c && isNumberText (c :: body) then .number else .name, pos, pos + bytes (c :: body)⟩ :: R) := by
  simp only [wordOk, Bool.and_eq_true, Bool.not_eq_true', bne_iff_ne, ne_eq] at hw
  obtain ⟨⟨⟨⟨h1, h2⟩, h3⟩, h4⟩, h5⟩ := hw
  have hnl : c ≠ '\n' := by intro e; rw [e, nl_ws] at h1; cases h1
  exact LexTo.step (chunkOf_word W c body X h1 hnl h2 h3 h4 h5 hX) h

structure Layout where
  lead : Sep
  items : List (Lef.Tok × Sep)

def itemsText : List (Lef.Tok × Sep) → List Char
  | [] => []
  | (t, s) :: r => t.txt ++ s.text ++ itemsText r

def Layout.text (L : Layout) : List Char := L.lead.text ++ itemsText L.items

/-- a word must be followed by white space (or by the end of the text); `;` and strings need no gap -/
def gapOk (t : Lef.Tok) (s : Sep) (rest : List (Lef.Tok × Sep)) : Bool :=
  !isWord t || !s.w0.isEmpty || (s.segs.isEmpty && rest.isEmpty)

def itemsOk : List (Lef.Tok × Sep) → Bool
  | [] => true
  | (t, s) :: r => tokWf t && s.ok && gapOk t s r && itemsOk r

def Layout.ok (L : Layout) : Bool := L.lead.ok && itemsOk L.items

theorem itemsOk_map (s : Sep) (hs : s.ok = true) (hw : s.w0.isEmpty = false) : ∀ ts : List Lef.Tok, ts.all tokWf = true →
    itemsOk (ts.map (·, s)) = true
  | [], _ => rfl
  | t :: ts, h => by
    simp only [List.all_cons, Bool.and_eq_true] at h
    simp only [List.map_cons, itemsOk, gapOk, h.1, hs, hw, itemsOk_map s hs hw ts h.2, Bool.not_false, Bool.or_true, Bool.true_or,
      Bool.and_self]

theorem itemsText_map (s : Sep) : ∀ ts : List Lef.Tok, itemsText (ts.map (·, s)) = ts.flatMap fun t => t.txt ++ s.text
  | [] => rfl
  | t :: ts => by rw [List.map_cons, itemsText, itemsText_map s ts, List.flatMap_cons]

/-- the lexer's tokens for the items: types and byte spans, the first item starting at `pos` -/
def posToks (pos : Nat) : List (Lef.Tok × Sep) → List LefLex.Tok
  | [] => []
  | (t, s) :: r => ⟨t.tt, pos, pos + bytes t.txt⟩ :: posToks (pos + bytes t.txt + bytes s.text) r

theorem itemsText_head (items : List (Lef.Tok × Sep)) (h : itemsOk items = true) : headNotWs (itemsText items) := by
  cases items with
  | nil => intro c hc; cases hc
  | cons p r =>
    obtain ⟨t, s⟩ := p
    simp only [itemsOk, Bool.and_eq_true] at h
    intro d hd
    rcases tokWf_cases h.1.1.1 with rfl | ⟨body, rfl, _⟩ | ⟨c, body, rfl, hw⟩
    · cases hd; decide
    · cases hd; decide
    · cases hd
      simp only [wordOk, Bool.and_eq_true, Bool.not_eq_true'] at hw
      exact hw.1.1.1.1

theorem gap_head (t : Lef.Tok) (s : Sep) (r : List (Lef.Tok × Sep)) (hw : isWord t = true) (hs : s.ok = true)
    (hg : gapOk t s r = true) : ∀ d, (s.text ++ itemsText r).head? = some d → W d = true := by
  intro d hd
  simp only [Sep.ok, Bool.and_eq_true] at hs
  cases hw0 : s.w0 with
  | nil =>
    simp only [gapOk, hw, hw0, Bool.not_true, Bool.false_or, List.isEmpty_nil, Bool.and_eq_true, List.isEmpty_iff] at hg
    rw [Sep.text, hw0, hg.1, hg.2] at hd
    cases hd
  | cons c w =>
    rw [hw0] at hs
    rw [Sep.text, hw0] at hd
    cases hd
    exact (Bool.and_eq_true _ _ ▸ hs.1).1

theorem lex_items : ∀ (items : List (Lef.Tok × Sep)) (pos : Nat), itemsOk items = true →
    LexTo pos (itemsText items) (posToks pos items)
  | [], pos, _ => LexTo_nil pos
  | (t, s) :: r, pos, h => by
    simp only [itemsOk, Bool.and_eq_true] at h
    obtain ⟨⟨⟨hwf, hs⟩, hgap⟩, hr⟩ := h
    have hrest : LexTo (pos + bytes t.txt) (s.text ++ itemsText r) (posToks (pos + bytes t.txt + bytes s.text) r) :=
      skip_sep _ _ (itemsText_head r hr) s hs _ (lex_items r _ hr)
    simp only [itemsText, posToks, List.append_assoc]
    rcases tokWf_cases hwf with rfl | ⟨body, rfl, hb⟩ | ⟨c, body, rfl, hw⟩
    · exact lex_semi pos _ _ hrest
    · exact lex_string pos body _ _ hb hrest
    · exact lex_word pos c body _ _ hw (gap_head _ s r (by cases numStart c && isNumberText (c :: body) <;> rfl) hs hgap) hrest

theorem sliceGo_skip (s e : Nat) : ∀ (pre Y : List Char) (p : Nat), p + bytes pre ≤ s → s ≤ e →
    sliceBytes.go s e p (pre ++ Y) = sliceBytes.go s e (p + bytes pre) Y := by
  intro pre
  induction pre with
  | nil => intro Y p _ _; simp
  | cons c pre ih =>
    intro Y p h1 h2
    have := Char.utf8Size_pos c
    simp only [bytes_cons] at h1
    simp only [List.cons_append, sliceBytes.go]
    rw [if_neg (by omega), if_neg (by omega), ih Y _ (by omega) h2, bytes_cons, Nat.add_assoc]

theorem sliceGo_take (s e : Nat) : ∀ (txt Z : List Char) (p : Nat), s ≤ p → p + bytes txt ≤ e →
    sliceBytes.go s e p (txt ++ Z) = txt ++ sliceBytes.go s e (p + bytes txt) Z := by
  intro txt
  induction txt with
  | nil => intro Z p _ _; simp
  | cons c txt ih =>
    intro Z p h1 h2
    have := Char.utf8Size_pos c
    simp only [bytes_cons] at h2
    simp only [List.cons_append, sliceBytes.go]
    rw [if_neg (by omega), if_pos (by omega), ih Z _ (by omega) (by omega), bytes_cons, Nat.add_assoc]

theorem sliceGo_done (s e p : Nat) (Z : List Char) (h : e ≤ p) : sliceBytes.go s e p Z = [] := by
  cases Z with
  | nil => simp [sliceBytes.go]
  | cons c r => simp only [sliceBytes.go]; rw [if_pos (by omega)]

theorem slice_mid (pre txt post : List Char) :
    sliceBytes (pre ++ (txt ++ post)) (bytes pre) (bytes pre + bytes txt) = txt := by
  unfold sliceBytes
  rw [sliceGo_skip _ _ pre _ 0 (by omega) (by omega), sliceGo_take _ _ txt post _ (by omega) (by omega),
    sliceGo_done _ _ _ _ (by omega)]
  simp

theorem slice_items : ∀ (items : List (Lef.Tok × Sep)) (pre : List Char),
    (posToks (bytes pre) items).map (fun t => (⟨t.ttype, sliceBytes (pre ++ itemsText items) t.start t.stop⟩ : Lef.Tok)) =
      items.map (·.1) := by
  intro items
  induction items with
  | nil => intro pre; rfl
  | cons p r ih =>
    intro pre
    obtain ⟨t, s⟩ := p
    simp only [posToks, itemsText, List.map_cons, List.append_assoc]
    congr 1
    · rw [slice_mid]
    · have := ih (pre ++ (t.txt ++ s.text))
      simpa [bytes_append, Nat.add_assoc] using this

theorem tokens_layout (L : Layout) (h : L.ok = true) : tokens L.text = some (L.items.map (·.1)) := by
  simp only [Layout.ok, Bool.and_eq_true] at h
  have hl : LexTo 0 (L.lead.text ++ itemsText L.items) (posToks (bytes L.lead.text) L.items) :=
    skip_sep _ _ (itemsText_head _ h.2) L.lead h.1 0 (by simpa using lex_items L.items (bytes L.lead.text) h.2)
  have := hl ((L.lead.text ++ itemsText L.items).length + 1) (by omega)
  simp only [tokens, lex, Layout.text, this]
  rw [slice_items L.items L.lead.text]

theorem parse_layout (L : Layout) (h : L.ok = true) :
    parse L.text = libBody ((L.items.map (·.1)).length + 1) ⟨58, 1⟩ {} (L.items.map (·.1)) := by
  simp [parse, tokens_layout L h]

theorem parse_layout_indep (L1 L2 : Layout) (h1 : L1.ok = true) (h2 : L2.ok = true)
    (he : L1.items.map (·.1) = L2.items.map (·.1)) : parse L1.text = parse L2.text := by
  rw [parse_layout L1 h1, parse_layout L2 h2, he]

end L21.LefLexRT
