import L21.Model.Lef
/-
Progress of the LEF reader model.  The model gives every loop of the parser a budget, started at `length + 1`,
and puts a guard `r.length < ts.length` in front of a recursive call behind a whole sub-construct.  Here:
the routines succeed only by consuming tokens (`X_adv : Adv n X`: a success of `X` leaves at least `n` tokens
fewer; n = 0 for some list loops and optional parts), and any two budgets above the input length give the same
answer (`LoopRel.fuel`) whether or not a guard fires: the proofs split on a guard, they do not refute it.

`Adv` is closed under the constructions the routines are written with, so the proof for a routine is a term with the
shape of its `do` block.  A loop gets one lemma `X_rel : LoopRel D X`: at budget `f + 1` the loop fails, answers
directly (then `D` holds of the answer), or returns what budget `f` returns on strictly shorter input, stated for an
arbitrary relation `R` between the outcomes at two budgets.  `R := Eq` gives `LoopRel.fuel`, a predicate on the first
outcome gives progress (`LoopRel.adv`).  Lean checks an `X_rel` term against the loop body by unfolding `X (f + 1) s ts`
during unification: no `rw [X]` appears in them.
-/
namespace L21.Lef
open L21.LefLex L21.LefEnum

def Adv {α : Type} (n : Nat) (p : P α) : Prop := ∀ ts a r, p ts = some (a, r) → r.length + n ≤ ts.length

namespace Adv
variable {α β : Type} {m n : Nat} {p : P α}

/-- write `Adv.mono (m := k) <| …`, not `(…).mono`: the postfix form elaborates its argument before the parser is known -/
theorem mono (h : Adv m p) (hn : n ≤ m := by omega) : Adv n p :=
  fun ts a r e => Nat.le_trans (Nat.add_le_add_left hn _) (h ts a r e)

theorem lt (h : Adv 1 p) {ts : List Tok} {a : α} {r : List Tok} (e : p ts = some (a, r)) : r.length < ts.length := h ts a r e

theorem zero (h : Adv m p) : Adv 0 p := h.mono (Nat.zero_le m)

theorem pure (a : α) : Adv 0 fun ts => some (a, ts) := by
  intro ts a' r e; cases e; exact Nat.le_refl _

theorem fail : Adv n fun _ => (none : Option (α × List Tok)) := fun _ _ _ e => nomatch e

theorem bind {F : α × List Tok → Option (β × List Tok)}
    (hp : Adv m p) (hF : ∀ a, Adv n fun r => F (a, r)) : Adv (n + m) fun ts => (p ts).bind F := by
  intro ts b r e
  obtain ⟨⟨a, r₁⟩, e₁, e₂⟩ := Option.bind_eq_some_iff.1 e
  have := hp ts a r₁ e₁; have := hF a r₁ b r e₂; omega

theorem bind_some {F : α × List Tok → Option β} (hp : Adv m p) {ts : List Tok} {y : β} (e : (p ts).bind F = some y) :
    ∃ x, x.2.length + m ≤ ts.length ∧ F x = some y :=
  let ⟨x, e₁, e₂⟩ := Option.bind_eq_some_iff.1 e
  ⟨x, hp ts x.1 x.2 e₁, e₂⟩

theorem peek {q : String → P α} (h : ∀ k, Adv n (q k)) : Adv n fun ts => match peekKey ts with | none => none | some k => q k ts := by
  intro ts a r e
  dsimp only at e
  split at e
  · cases e
  · exact h _ ts a r e

theorem peekBind {q : String → P α} (h : ∀ k, Adv n (q k)) : Adv n fun ts => (peekKey ts).bind fun k => q k ts := by
  intro ts a r e
  obtain ⟨k, _, e⟩ := Option.bind_eq_some_iff.1 e
  exact h k ts a r e

theorem tail (hp : Adv n p) : Adv n fun ts => p ts.tail :=
  fun ts a r e => Nat.le_trans (hp _ a r e) (by have := ts.length_tail; omega)

theorem map {f : α × List Tok → β} (hp : Adv m p) : Adv m fun ts => (p ts).map fun x => (f x, x.2) := by
  intro ts b r e
  obtain ⟨⟨a, r₁⟩, e₁, e₂⟩ := Option.map_eq_some_iff.1 e
  cases e₂; exact hp ts a r₁ e₁

theorem ite {c : List Tok → Prop} [∀ ts, Decidable (c ts)] {q : P α} (hp : Adv n p) (hq : Adv n q) :
    Adv n fun ts => if c ts then p ts else q ts := by
  intro ts a r e; dsimp only at e; split at e
  · exact hp ts a r e
  · exact hq ts a r e

theorem opt {o : Option α} : Adv 0 fun r => o.map fun a => (a, r) := by
  intro ts a r e
  obtain ⟨_, _, e⟩ := Option.map_eq_some_iff.1 e
  cases e; exact Nat.le_refl _

theorem congr {q : P α} (h : ∀ ts, p ts = q ts) (hq : Adv n q) : Adv n p := fun ts a r e => hq ts a r (h ts ▸ e)

end Adv

theorem expectTT_adv (tt : TT) : Adv 1 (expectTT tt) := by
  intro ts a r e
  cases ts with
  | nil => cases e
  | cons t ts =>
    rw [expectTT] at e
    split at e
    · cases e; exact Nat.le_refl _
    · cases e

theorem getName_adv : Adv 1 getName := expectTT_adv _
theorem semi_adv : Adv 1 semi := (expectTT_adv .semi).map (f := fun _ => ())

/-! each `match p ts with | some (a, r) => … | none => none` of the small parsers is a `bind` -/
theorem getKey_eq (ts : List Tok) : getKey ts = (getName ts).bind fun (t, r) => (LefEnum.parse keyTable t).map fun k => (k, r) := by
  unfold getKey; cases getName ts <;> rfl

theorem expectKey_eq (k : String) (ts : List Tok) :
    expectKey k ts = (getKey ts).bind fun (k', r) => if k' == k then some ((), r) else none := by
  unfold expectKey; cases getKey ts <;> rfl

theorem expectIdent_eq (s : Str) (ts : List Tok) :
    expectIdent s ts = (getName ts).bind fun (t, r) => if t == s then some ((), r) else none := by
  unfold expectIdent; cases getName ts <;> rfl

theorem parseEnum_eq (tb : String) (ts : List Tok) :
    parseEnum tb ts = (getName ts).bind fun (t, r) => (LefEnum.parse (enumTable tb) t).map fun v => (v, r) := by
  unfold parseEnum; cases getName ts <;> rfl

theorem number_eq (ts : List Tok) : number ts = (expectTT .number ts).bind fun (t, r) => (parseDecText t).map fun d => (d, r) := by
  unfold number; cases expectTT .number ts <;> rfl

theorem point_eq (ts : List Tok) : point ts = (number ts).bind fun (x, r) => (number r).bind fun (y, r') => some (⟨x, y⟩, r') := by
  unfold point
  cases number ts with
  | none => rfl
  | some x =>
    dsimp only [Option.bind_some]
    cases number x.2 <;> rfl

theorem getKey_adv : Adv 1 getKey := .congr getKey_eq (getName_adv.bind fun _ => .opt)
theorem expectKey_adv (k : String) : Adv 1 (expectKey k) := .congr (expectKey_eq k) (getKey_adv.bind fun _ => .ite (.pure _) .fail)
theorem expectIdent_adv (s : Str) : Adv 1 (expectIdent s) := .congr (expectIdent_eq s) (getName_adv.bind fun _ => .ite (.pure _) .fail)
theorem parseEnum_adv (tb : String) : Adv 1 (parseEnum tb) := .congr (parseEnum_eq tb) (getName_adv.bind fun _ => .opt)
theorem number_adv : Adv 1 number := .congr number_eq ((expectTT_adv _).bind fun _ => .opt)
theorem point_adv : Adv 2 point := .congr point_eq (number_adv.bind fun _ => number_adv.bind fun _ => .pure _)

theorem num2_adv : Adv 2 num2 := number_adv.bind fun _ => number_adv.map (f := fun x => (_, x.1))

theorem num4_adv : Adv 4 num4 := num2_adv.bind fun _ => num2_adv.map (f := fun x => (_, _, x.1))

theorem stepPattern_adv : Adv 7 stepPattern :=
  (expectKey_adv _).bind fun _ => number_adv.bind fun _ => (expectKey_adv _).bind fun _ => number_adv.bind fun _ =>
  (expectKey_adv _).bind fun _ => number_adv.bind fun _ => number_adv.bind fun _ => .pure _

theorem sizeStmt_adv : Adv 5 sizeStmt :=
  (expectKey_adv _).bind fun _ => number_adv.bind fun _ => (expectKey_adv _).bind fun _ => number_adv.bind fun _ =>
  semi_adv.bind fun _ => .pure _

section rel
variable {α β σ : Type} {R : Option β → Option β → Prop}

theorem rel_bind (h0 : R none none) {o : Option α} {F G : α → Option β} (h : ∀ a, o = some a → R (F a) (G a)) :
    R (o.bind F) (o.bind G) := by
  cases o with
  | none => exact h0
  | some a => exact h a rfl

theorem rel_dite {c : Prop} [Decidable c] {A A' B B' : Option β} (ht : c → R A A') (he : R B B') :
    R (if c then A else B) (if c then A' else B') := by
  split
  · exact ht ‹_›
  · exact he

theorem rel_ite {c : Prop} [Decidable c] {A A' B B' : Option β} (ht : R A A') (he : R B B') :
    R (if c then A else B) (if c then A' else B') :=
  rel_dite (fun _ => ht) he

theorem rel_peek (h0 : R none none) {ts : List Tok} {F G : String → Option β} (h : ∀ k, peekKey ts = some k → R (F k) (G k)) :
    R (match peekKey ts with | none => none | some k => F k) (match peekKey ts with | none => none | some k => G k) := by
  cases hk : peekKey ts with
  | none => exact h0
  | some k => exact h k hk

/-- for `match getKey ts with …`: Lean shares the matcher of a `match` only between discriminants of the same type listed
    in the same order, hence `String` here -/
theorem rel_key (h0 : R none none) {o : Option (String × List Tok)} {F G : String → List Tok → Option β}
    (h : ∀ a r, o = some (a, r) → R (F a r) (G a r)) :
    R (match (generalizing := false) o with | none => none | some (a, r) => F a r)
      (match (generalizing := false) o with | none => none | some (a, r) => G a r) := by
  cases o with
  | none => exact h0
  | some x => exact h _ _ rfl

theorem rel_self (h0 : R none none) {o : Option β} (h1 : ∀ v, o = some v → R (some v) (some v)) : R o o := by
  cases o with
  | none => exact h0
  | some v => exact h1 v rfl

theorem rel_call (h0 : R none none) {n : Nat} {kf kg : σ → List Tok → Option β} (hr : ∀ s r, r.length < n → R (kf s r) (kg s r))
    {s : σ} {r : List Tok} : R (if r.length < n then kf s r else none) (if r.length < n then kg s r else none) := by
  split
  · exact hr _ _ ‹_›
  · exact h0

theorem rel_guard (h0 : R none none) {o : Option (α × List Tok)} {n : Nat} {kf kg : σ → List Tok → Option β} {S : α × List Tok → σ}
    (hr : ∀ s r, r.length < n → R (kf s r) (kg s r)) :
    R (o.bind fun x => if x.2.length < n then kf (S x) x.2 else none) (o.bind fun x => if x.2.length < n then kg (S x) x.2 else none) :=
  rel_bind h0 fun _ _ => rel_call h0 hr

theorem Adv.rel_bind {n : Nat} {p : P α} (hp : Adv n p) (h0 : R none none) {ts : List Tok} {F G : α × List Tok → Option β}
    (h : ∀ x, x.2.length + n ≤ ts.length → R (F x) (G x)) : R ((p ts).bind F) ((p ts).bind G) :=
  L21.Lef.rel_bind h0 fun x e => h x (hp ts x.1 x.2 e)

/-- `KEY value ;` read from behind the keyword, then a call of the loop.
    `S` takes the pairs whole: `S x.1 y.2` is no pattern and would not unify with a loop body -/
theorem Adv.rel_stmt {n : Nat} {p : P α} (hp : Adv n p) (h0 : R none none) {ts : List Tok} (ht : ts.tail.length + 1 = ts.length)
    {kf kg : σ → List Tok → Option β} {S : α × List Tok → Unit × List Tok → σ} (hr : ∀ s r, r.length < ts.length → R (kf s r) (kg s r)) :
    R ((p ts.tail).bind fun x => (semi x.2).bind fun y => kf (S x y) y.2) ((p ts.tail).bind fun x => (semi x.2).bind fun y => kg (S x y) y.2) :=
  hp.rel_bind h0 fun _ _ => semi_adv.rel_bind h0 fun _ _ => hr _ _ (by omega)
end rel

section loops
variable {σ ρ : Type}

/-- `D ts v`: what is known of a direct answer `v` to input `ts`.
    A proof `X_rel` is a term `fun f g s ts R h0 h1 hr => …` listing the branches of the loop body in the order of its `if`
    chain, one `rel_ite` a branch: `h0 : R none none` closes a branch that fails, `h1 v (d : D ts v)` one that answers `v`,
    `hr s' r (lt : r.length < ts.length)` a call of the loop — through `.rel_stmt` (`KEY value ;`), `rel_guard` (`lt` is the
    model's own guard) or a chain of `.rel_bind` ending in `hr _ _ (by omega)`.  The comment behind a branch names the keyword the
    model's branch tests.  After a change of the model Lean reports a branch that no longer fits at the argument of its `rel_ite`
    (expected type: the model's branch), but a combinator of the wrong shape (`rel_peek` where the model reads with `getKey`, a
    `rel_ite` where the chain has ended) as one mismatch of the whole term from there on; then build the term by tactics,
    `intro f g s ts R h0 h1 hr`, `refine rel_peek h0 fun k hk => ?_`, and `refine rel_ite ?_ ?_` for each branch: the second goal is
    the rest of the model's chain and begins with its next `if k == "…"`. -/
def LoopRel (D : List Tok → ρ → Prop) (loop : Nat → σ → List Tok → Option ρ) : Prop :=
  ∀ ⦃f g : Nat⦄ ⦃s : σ⦄ ⦃ts : List Tok⦄ ⦃R : Option ρ → Option ρ → Prop⦄, R none none → (∀ v, D ts v → R (some v) (some v)) →
    (∀ s' r, r.length < ts.length → R (loop f s' r) (loop g s' r)) → R (loop (f + 1) s ts) (loop (g + 1) s ts)

/-- the `LoopRel` of a loop whose direct answers leave at least `n` tokens fewer -/
abbrev Shrinks (n : Nat) (loop : Nat → σ → List Tok → Option (ρ × List Tok)) : Prop :=
  LoopRel (fun ts v => v.2.length + n ≤ ts.length) loop

theorem LoopRel.fuel {D : List Tok → ρ → Prop} {loop : Nat → σ → List Tok → Option ρ} (hl : LoopRel D loop)
    {ts : List Tok} {f g : Nat} (hf : ts.length < f) (hg : ts.length < g) (s : σ) : loop f s ts = loop g s ts := by
  induction hn : ts.length using Nat.strongRecOn generalizing ts f g s with
  | _ n ih =>
    obtain ⟨f, rfl⟩ := Nat.exists_eq_add_one.2 (Nat.zero_lt_of_lt hf)
    obtain ⟨g, rfl⟩ := Nat.exists_eq_add_one.2 (Nat.zero_lt_of_lt hg)
    exact hl rfl (fun _ _ => rfl) fun s' r hr => ih r.length (by omega) (by omega) (by omega) s' rfl

theorem LoopRel.fuel_succ {D : List Tok → ρ → Prop} {loop : Nat → σ → List Tok → Option ρ} (hl : LoopRel D loop)
    {f : Nat} {ts : List Tok} (h : ts.length < f) (s : σ) : loop f s ts = loop (f + 1) s ts :=
  hl.fuel h (Nat.lt_succ_of_lt h) s

theorem LoopRel.adv_at {n : Nat} {loop : Nat → σ → List Tok → Option (ρ × List Tok)}
    (hl : Shrinks n loop) (h0 : ∀ s ts, loop 0 s ts = none) : ∀ f s, Adv n (loop f s) := by
  intro f
  induction f with
  | zero => intro s ts v r e; rw [h0] at e; cases e
  | succ f ih =>
    intro s ts
    refine hl (g := f) (R := fun o _ => ∀ v r, o = some (v, r) → r.length + n ≤ ts.length) (fun _ _ e => nomatch e) ?_ ?_
    · intro v h v' r' e; cases e; exact h
    · intro s' r h v r' e; have := ih s' r v r' e; omega

theorem LoopRel.adv {n : Nat} {loop : Nat → σ → List Tok → Option (ρ × List Tok)}
    (hl : Shrinks n loop) (h0 : ∀ s ts, loop 0 s ts = none) {F : List Tok → Nat} {s : σ} :
    Adv n fun ts => loop (F ts) s ts :=
  fun ts => hl.adv_at h0 _ s ts
end loops

theorem peekKey_tail {ts : List Tok} {k : String} (h : peekKey ts = some k) : ts.tail.length + 1 = ts.length := by
  cases ts with
  | nil => cases h
  | cons a b => rfl

theorem matchesTT_tail {tt : TT} {ts : List Tok} (h : matchesTT tt ts = true) : ts.tail.length + 1 = ts.length := by
  cases ts with
  | nil => cases h
  | cons a b => rfl

theorem Adv.orTail {α : Type} {tt : TT} (a : α) {q : P α} (hq : Adv 1 q) :
    Adv 1 fun ts => if matchesTT tt ts = true then some (a, ts.tail) else q ts := by
  intro ts a' r e; dsimp only at e; split at e
  · cases e; exact Nat.le_of_eq (matchesTT_tail ‹_›)
  · exact hq ts a' r e

/-- the one loop without an `X_rel`: its recursive call sits under `.map` -/
theorem pointList_adv : ∀ f, Adv 0 (pointList f) := by
  intro f
  induction f with
  | zero => intro ts ps r e; cases e
  | succ f ih =>
    intro ts ps r e
    rw [pointList] at e
    split at e
    · split at e
      · obtain ⟨x, e₁, e₂⟩ := Option.map_eq_some_iff.1 e
        cases e₂
        have := point_adv _ _ _ ‹_›; have := ih _ _ _ e₁; omega
      · cases e
    · cases e; exact Nat.le_refl _

theorem pointList_fuel {f : Nat} {ts : List Tok} : ts.length < f → pointList f ts = pointList (f + 1) ts := by
  induction f generalizing ts with
  | zero => exact fun h => nomatch h
  | succ f ih =>
    intro h
    rw [pointList, pointList]
    split
    · cases hp : point ts with
      | none => rfl
      | some x => exact congrArg (Option.map _) (ih (ts := x.2) (by have := point_adv _ _ _ hp; omega))
    · rfl

theorem geomMask_adv : Adv 0 geomMask :=
  .ite (.peek fun _ => .ite (.zero (number_adv.tail.map (f := fun x => some x.1))) (.pure _)) (.pure _)

theorem geomIterate_adv : Adv 0 geomIterate :=
  .ite (.peek fun _ => .ite (Adv.tail (p := fun r => some (true, r)) (.pure _)) (.pure _)) (.pure _)

theorem geomTail_adv (it : Bool) (s : Shape) : Adv 1 (geomTail it s) := by
  cases it
  · exact semi_adv.bind fun _ => .pure _
  · exact Adv.mono (m := 8) (stepPattern_adv.bind fun _ => semi_adv.bind fun _ => .pure _)

theorem geometry_adv : Adv 1 geometry :=
  getKey_adv.bind fun _ =>
    .ite (.zero (geomMask_adv.bind fun _ => geomIterate_adv.bind fun _ => point_adv.bind fun _ => point_adv.bind fun _ =>
      geomTail_adv _ _)) <|
    .ite (.zero (geomMask_adv.bind fun _ => geomIterate_adv.bind fun _ => Adv.bind (fun ts => pointList_adv _ ts) fun _ =>
      .ite .fail (geomTail_adv _ _))) <|
    .ite (.zero (geomMask_adv.bind fun _ => geomIterate_adv.bind fun _ => Adv.bind (fun ts => pointList_adv _ ts) fun _ =>
      .ite .fail (geomTail_adv _ _))) .fail

theorem layerHeader_rel : Shrinks 1 layerHeader :=
  fun _ _ _ ts _ h0 h1 hr =>
    rel_dite (fun hm => h1 _ (Nat.le_of_eq (matchesTT_tail hm))) <|                               -- ; follows
    rel_key h0 fun k r hk =>
    have := getKey_adv ts k r hk
    rel_ite (hr _ _ this) <|                                                                      -- EXCEPTPGNET
    rel_ite (number_adv.rel_bind h0 fun _ _ => hr _ _ (by omega)) <|                              -- SPACING
    rel_ite (number_adv.rel_bind h0 fun _ _ => hr _ _ (by omega)) h0                              -- DESIGNRULEWIDTH

theorem layerBody_rel : Shrinks 0 layerBody :=
  fun _ _ _ _ _ h0 h1 hr =>
    rel_ite (h1 _ (Nat.le_refl _)) <|                                                             -- end of input
    rel_peek h0 fun _ hk =>
    have ht := peekKey_tail hk
    rel_ite (h1 _ (Nat.le_refl _)) <|                                                             -- LAYER, END
    rel_ite (geometry_adv.rel_bind h0 fun _ => hr _ _) <|                                         -- PATH, POLYGON, RECT
    rel_ite (rel_ite h0 <| point_adv.rel_bind h0 fun _ _ => getName_adv.rel_bind h0 fun _ _ =>    -- VIA
      semi_adv.rel_bind h0 fun _ _ => hr _ _ (by omega)) <|
    rel_ite (number_adv.rel_stmt h0 ht hr) h0                                                     -- WIDTH

theorem layerGeoms_adv : Adv 1 layerGeoms :=
  Adv.mono (m := 3) <| (expectKey_adv _).bind fun _ => getName_adv.bind fun _ =>
    (layerHeader_rel.adv fun _ _ => rfl).bind fun _ => layerBody_rel.adv fun _ _ => rfl

theorem portBody_rel : Shrinks 1 portBody :=
  fun _ _ _ _ _ h0 h1 hr => rel_peek h0 fun _ hk =>
    have ht := peekKey_tail hk
    rel_ite ((parseEnum_adv _).rel_stmt h0 ht hr) <|                                              -- CLASS
    rel_ite (rel_guard h0 hr) <|                                                                  -- LAYER
    rel_ite (h1 _ (Nat.le_of_eq ht)) h0                                                           -- END

theorem port_adv : Adv 1 port :=
  Adv.mono (m := 2) <| (expectKey_adv _).bind fun _ => portBody_rel.adv fun _ _ => rfl

theorem propertyPairs_rel : Shrinks 1 propertyPairs := by
  intro f g acc ts R h0 h1 hr
  refine rel_dite (fun hm => h1 _ (Nat.le_of_eq (matchesTT_tail hm))) ?_                          -- ; follows
  cases hn : getName ts with
  | none => exact h0
  | some x =>
    have := getName_adv ts x.1 x.2 hn
    obtain ⟨n, _ | ⟨t, r⟩⟩ := x
    · exact h0
    · exact rel_ite (hr _ _ (Nat.lt_of_succ_le (Nat.le_of_succ_le this))) h0                      -- name, number or string follows

theorem property_adv (acc : List Prop') : Adv 1 (property acc) :=
  Adv.mono (m := 2) <| (expectKey_adv _).bind fun _ => propertyPairs_rel.adv fun _ _ => rfl

theorem pinDirection_adv : Adv 1 pinDirection :=
  Adv.mono (m := 3) <| (expectKey_adv _).bind fun _ => getKey_adv.bind fun _ =>
    .ite (semi_adv.map (f := fun _ => _)) <| .ite (semi_adv.map (f := fun _ => _)) <| .ite (semi_adv.map (f := fun _ => _)) <|
    .ite (.orTail _ <| Adv.mono (m := 2) <| (expectKey_adv _).bind fun _ => semi_adv.bind fun _ => .pure _) .fail

theorem pinBody_rel : Shrinks 1 pinBody :=
  fun _ _ _ _ _ h0 h1 hr => rel_peek h0 fun _ hk =>
    have ht := peekKey_tail hk
    rel_ite (h1 _ (Nat.le_of_eq ht)) <|                                                           -- END
    rel_ite (rel_guard h0 hr) <|                                                                  -- PORT
    rel_ite (rel_guard h0 hr) <|                                                                  -- DIRECTION
    rel_ite ((parseEnum_adv _).rel_stmt h0 ht hr) <|                                              -- USE
    rel_ite ((parseEnum_adv _).rel_stmt h0 ht hr) <|                                              -- SHAPE
    rel_ite ((parseEnum_adv _).rel_stmt h0 ht hr) <|                                              -- ANTENNAMODEL
    rel_ite (getName_adv.rel_bind h0 fun _ _ => number_adv.rel_bind h0 fun x _ =>                 -- ANTENNA… value [LAYER name] ;
      rel_ite (hr _ _ (by have := x.2.length_tail; omega)) <| (expectKey_adv _).rel_bind h0 fun _ _ =>
        getName_adv.rel_bind h0 fun _ _ => semi_adv.rel_bind h0 fun _ _ => hr _ _ (by omega)) <|
    rel_ite (getName_adv.rel_stmt h0 ht hr) <|                                                    -- TAPERRULE
    rel_ite (getName_adv.rel_stmt h0 ht hr) <|                                                    -- MUSTJOIN
    rel_ite (getName_adv.rel_stmt h0 ht hr) <|                                                    -- SUPPLYSENSITIVITY
    rel_ite (getName_adv.rel_stmt h0 ht hr) <|                                                    -- GROUNDSENSITIVITY
    rel_ite ((expectTT_adv _).rel_stmt h0 ht hr) <|                                               -- NETEXPR
    rel_ite (rel_guard h0 hr) h0                                                                  -- PROPERTY

theorem pin_adv : Adv 1 pin :=
  Adv.mono (m := 4) <| (expectKey_adv _).bind fun _ => getName_adv.bind fun _ =>
    (pinBody_rel.adv fun _ _ => rfl).bind fun _ => (expectIdent_adv _).bind fun _ => .pure _

theorem obsBody_rel : Shrinks 0 obsBody :=
  fun _ _ _ ts _ h0 h1 hr =>
    rel_ite (h1 _ (Nat.le_refl _)) <|                                                             -- end of input
    rel_peek h0 fun _ _ =>
    rel_ite (rel_guard h0 hr) <|                                                                  -- LAYER
    rel_ite (h1 _ (by have := ts.length_tail; dsimp only; omega)) h0                              -- END

theorem densityRects_rel : Shrinks 0 densityRects :=
  fun _ _ _ _ _ h0 h1 hr => rel_peek h0 fun _ hk =>
    have ht := peekKey_tail hk
    rel_ite (h1 _ (Nat.le_refl _)) <|                                                             -- LAYER, END
    rel_ite (point_adv.rel_bind h0 fun _ _ => point_adv.rel_bind h0 fun _ _ => number_adv.rel_bind h0 fun _ _ =>
      semi_adv.rel_bind h0 fun _ _ => hr _ _ (by omega)) h0                                       -- RECT

theorem densityBody_rel : Shrinks 1 densityBody :=
  fun _ _ _ _ _ h0 h1 hr => rel_peek h0 fun _ hk =>
    rel_ite (rel_bind h0 fun _ _ => rel_bind h0 fun _ _ => rel_guard h0 hr) <|                    -- LAYER
    rel_ite (h1 _ (Nat.le_of_eq (peekKey_tail hk))) h0                                            -- END

theorem symmetries_rel : Shrinks 1 symmetries :=
  fun _ _ _ _ _ h0 h1 hr =>
    rel_dite (fun hm => h1 _ (Nat.le_of_eq (matchesTT_tail hm))) <|                               -- ; follows
    (parseEnum_adv _).rel_bind h0 fun _ => hr _ _                                                 -- otherwise a symmetry (X, Y, R90)

theorem macroClass_adv : Adv 1 macroClass :=
  Adv.mono (m := 3) <| (expectKey_adv _).bind fun _ => (parseEnum_adv _).bind fun c =>
    have sub (tb : String) : Adv 1 fun r => if matchesTT .semi r then some ((c, none, false), r.tail)
        else (parseEnum tb r).bind fun (t, r) => (semi r).map fun (_, r) => ((c, some t, false), r) :=
      .orTail _ <| Adv.mono (m := 2) <| (parseEnum_adv _).bind fun _ => semi_adv.map (f := fun _ => _)
    .ite (sub _) <| .ite (sub _) <| .ite (sub _) <|
    .ite (Adv.mono (m := 2) <| (parseEnum_adv _).bind fun _ => semi_adv.map (f := fun _ => _)) <|
    .ite (.orTail _ <| Adv.mono (m := 2) <| (expectKey_adv _).bind fun _ => semi_adv.map (f := fun _ => _)) <|
    .ite (semi_adv.map (f := fun _ => _)) .fail

theorem macroBody_rel (ver : Dec) : Shrinks 1 (macroBody ver) :=
  fun _ _ _ _ _ h0 h1 hr => rel_peek h0 fun _ hk =>
    rel_ite (rel_guard h0 hr) <|                                                                  -- CLASS
    rel_ite (rel_bind h0 fun _ _ => rel_guard h0 hr) <|                                           -- SITE
    rel_ite (rel_bind h0 fun _ _ => rel_guard h0 hr) <|                                           -- EEQ
    rel_ite (rel_guard h0 hr) <|                                                                  -- FIXEDMASK
    rel_ite (rel_bind h0 fun _ _ => rel_ite (rel_call h0 hr) <| rel_bind h0 fun _ _ =>            -- FOREIGN cell [pt [orient]] ;
      rel_ite (rel_call h0 hr) <| rel_bind h0 fun _ _ => rel_guard h0 hr) <|
    rel_ite (rel_bind h0 fun _ _ => rel_guard h0 hr) <|                                           -- ORIGIN
    rel_ite (rel_guard h0 hr) <|                                                                  -- SIZE
    rel_ite (rel_guard h0 hr) <|                                                                  -- PIN
    rel_ite (rel_guard h0 hr) <|                                                                  -- OBS
    rel_ite (rel_guard h0 hr) <|                                                                  -- PROPERTY
    rel_ite (rel_guard h0 hr) <|                                                                  -- SYMMETRY
    rel_ite (rel_ite h0 <| rel_bind h0 fun _ _ => rel_guard h0 hr) <|                             -- SOURCE
    rel_ite (rel_guard h0 hr) <|                                                                  -- DENSITY
    rel_ite (h1 _ (Nat.le_of_eq (peekKey_tail hk))) h0                                            -- END

theorem macro_adv (ver : Dec) : Adv 1 (macro_ ver) :=
  Adv.mono (m := 4) <| (expectKey_adv _).bind fun _ => getName_adv.bind fun _ =>
    ((macroBody_rel ver).adv fun _ _ => rfl).bind fun _ => (expectIdent_adv _).bind fun _ => .pure _

theorem unitsBody_rel : Shrinks 1 unitsBody :=
  fun f g u ts R h0 h1 hr => rel_key h0 fun k r hk =>
    have := getKey_adv ts k r hk
    -- the eight `KEY UNIT value ;` statements; `set` takes the pair whole to stay a pattern
    have stmt {unit : String} {set : Dec × List Tok → Option Units} :
        R ((expectKey unit r).bind fun a => (number a.2).bind fun b => (semi b.2).bind fun c => (set b).bind fun u' => unitsBody f u' c.2)
          ((expectKey unit r).bind fun a => (number a.2).bind fun b => (semi b.2).bind fun c => (set b).bind fun u' => unitsBody g u' c.2) :=
      (expectKey_adv _).rel_bind h0 fun _ _ => number_adv.rel_bind h0 fun _ _ => semi_adv.rel_bind h0 fun _ _ =>
        rel_bind h0 fun _ _ => hr _ _ (by omega)
    rel_ite stmt <|                                                                               -- DATABASE MICRONS
    rel_ite stmt <|                                                                               -- TIME NANOSECONDS
    rel_ite stmt <|                                                                               -- CAPACITANCE PICOFARADS
    rel_ite stmt <|                                                                               -- RESISTANCE OHMS
    rel_ite stmt <|                                                                               -- POWER MILLIWATTS
    rel_ite stmt <|                                                                               -- CURRENT MILLIAMPS
    rel_ite stmt <|                                                                               -- VOLTAGE VOLTS
    rel_ite stmt <|                                                                               -- FREQUENCY MEGAHERTZ
    rel_ite (rel_self h0 fun v e =>                                                               -- END UNITS
      h1 v (Nat.le_trans (((expectKey_adv _).map (f := fun _ => u)) _ _ _ e) (Nat.le_of_lt this))) h0

theorem siteBody_rel (name : Str) : Shrinks 1 (siteBody name) :=
  fun _ _ b ts _ h0 h1 hr => rel_peek h0 fun _ hk =>
    rel_ite (rel_self h0 fun v e => h1 v <| by                                                    -- END name
      obtain ⟨x, _, e⟩ := (expectIdent_adv _).bind_some e
      have := peekKey_tail hk
      dsimp only at e
      split at e
      · cases e; dsimp only; omega
      · cases e) <|
    rel_ite (rel_bind h0 fun _ _ => rel_guard h0 hr) <|                                           -- CLASS
    rel_ite (rel_guard h0 hr) <|                                                                  -- SYMMETRY
    rel_ite (rel_guard h0 hr) h0                                                                  -- SIZE

theorem site_adv : Adv 1 site :=
  Adv.mono (m := 3) <| (expectKey_adv _).bind fun _ => getName_adv.bind fun _ => (siteBody_rel _).adv fun _ _ => rfl

theorem viaMask_eq (ts : List Tok) : viaMask ts =
    if matchesTT .name ts then (getKey ts).bind fun (k, r) => if k == "Mask" then (number r).map fun (d, r) => (some d, r) else none
    else some (none, ts) := by
  unfold viaMask; cases getKey ts <;> rfl

theorem viaMask_adv : Adv 0 viaMask :=
  .congr viaMask_eq (.ite (.zero (getKey_adv.bind fun _ => .ite (number_adv.map (f := fun x => some x.1)) .fail)) (.pure _))

/-- the routine reads on from `ts.tail`, which unification cannot abstract: hence the proof from the equation -/
theorem viaShape_adv : Adv 1 viaShape := by
  intro ts v r e
  unfold viaShape at e
  split at e
  · cases e
  · have ht := peekKey_tail ‹_›
    split at e
    · obtain ⟨_, _, e⟩ := viaMask_adv.bind_some e
      obtain ⟨_, _, e⟩ := point_adv.bind_some e
      obtain ⟨_, _, e⟩ := point_adv.bind_some e
      obtain ⟨_, _, e⟩ := semi_adv.bind_some e
      cases e; omega
    · split at e
      · obtain ⟨_, _, e⟩ := viaMask_adv.bind_some e
        obtain ⟨_, _, e⟩ := Adv.bind_some (p := fun r => pointList (r.length + 1) r) (fun ts => pointList_adv _ ts) e
        dsimp only at e
        split at e
        · cases e
        · obtain ⟨_, _, e⟩ := semi_adv.bind_some e
          cases e; omega
      · cases e

theorem viaShapes_rel : Shrinks 0 viaShapes :=
  fun _ _ _ _ _ h0 h1 hr =>
    rel_ite (h1 _ (Nat.le_refl _)) <|                                                             -- end of input
    rel_peek h0 fun _ _ =>
    rel_ite (h1 _ (Nat.le_refl _)) <|                                                             -- LAYER, PROPERTY, END
    rel_ite (rel_guard h0 hr) h0                                                                  -- POLYGON, RECT

theorem viaLayers_rel : Shrinks 0 viaLayers :=
  fun _ _ _ _ _ h0 h1 hr => rel_peek h0 fun _ _ =>
    rel_ite (rel_bind h0 fun _ _ => rel_bind h0 fun _ _ => rel_guard h0 hr)                       -- LAYER
      (h1 _ (Nat.le_refl _))                                                                      -- any other key

theorem genViaBody_rel : Shrinks 0 genViaBody :=
  fun _ _ _ _ _ h0 h1 hr => rel_peek h0 fun _ hk =>
    have ht := peekKey_tail hk
    rel_ite (num2_adv.rel_stmt h0 ht hr) <|                                                       -- CUTSIZE
    rel_ite (getName_adv.rel_bind h0 fun _ _ => getName_adv.rel_bind h0 fun _ _ => getName_adv.rel_bind h0 fun _ _ =>
      semi_adv.rel_bind h0 fun _ _ => hr _ _ (by omega)) <|                                       -- LAYERS
    rel_ite (num2_adv.rel_stmt h0 ht hr) <|                                                       -- CUTSPACING
    rel_ite (num4_adv.rel_stmt h0 ht hr) <|                                                       -- ENCLOSURE
    rel_ite (num2_adv.rel_stmt h0 ht hr) <|                                                       -- ROWCOL
    rel_ite (point_adv.rel_stmt h0 ht hr) <|                                                      -- ORIGIN
    rel_ite (num4_adv.rel_stmt h0 ht hr) <|                                                       -- OFFSET
    rel_ite (h1 _ (Nat.le_refl _)) h0                                                             -- END

theorem viaDataP_adv : Adv 0 viaDataP :=
  .peekBind fun _ => .ite
    (.zero <| getName_adv.tail.bind fun _ => semi_adv.bind fun _ =>
      Adv.bind (n := 0) (genViaBody_rel.adv fun _ _ => rfl) fun _ r _ _ e => by
        dsimp only at e; split at e
        · cases e; exact Nat.le_refl _
        · cases e) <|
    have fixed (res : Option Dec) : Adv 0 fun r => (viaLayers (r.length + 1) [] r).bind fun (ls, r) => some (ViaData.fixed res ls, r) :=
      (viaLayers_rel.adv fun _ _ => rfl).bind fun _ => .pure _
    .ite (Adv.bind (.zero <| number_adv.tail.bind fun _ => semi_adv.map (f := fun _ => _)) fixed) (Adv.bind (.pure _) fixed)

theorem viaDef_adv : Adv 1 viaDef := by
  intro ts v r e
  unfold viaDef at e
  obtain ⟨_, _, e⟩ := (expectKey_adv _).bind_some e
  obtain ⟨x, _, e⟩ := getName_adv.bind_some e
  obtain ⟨k1, _, e⟩ := Option.bind_eq_some_iff.1 e
  dsimp only at e
  have : (if k1 == "Default" then (true, x.2.tail) else (false, x.2)).2.length ≤ x.2.length := by
    split
    · have := x.2.length_tail; dsimp only; omega
    · exact Nat.le_refl _
  obtain ⟨_, _, e⟩ := viaDataP_adv.bind_some e
  obtain ⟨_, _, e⟩ := Option.bind_eq_some_iff.1 e
  split at e
  · obtain ⟨_, _, e⟩ := (expectIdent_adv _).tail.bind_some e
    cases e; omega
  · cases e

theorem propDefTail_adv : Adv 1 propDefTail :=
  -- the `do` block repeats what follows an `if` in both its branches
  have value (range : Option (Dec × Dec)) : Adv 1 fun r =>
      if matchesTT .number r = true then ((number r).map fun (d, r) => (some d, r)).bind fun (value, r) => (semi r).bind fun (_, r) => some ((value, range), r)
      else (some (none, r)).bind fun (value, r) => (semi r).bind fun (_, r) => some ((value, range), r) :=
    .ite (Adv.bind (.zero <| number_adv.map (f := fun _ => _)) fun _ => semi_adv.bind fun _ => .pure _)
      (Adv.bind (.pure _) fun _ => semi_adv.bind fun _ => .pure _)
  .ite (Adv.bind (.zero <| (expectKey_adv _).bind fun _ => num2_adv.map (f := fun _ => _)) value) (Adv.bind (.pure _) value)

theorem propDefs_rel : Shrinks 1 propDefs :=
  fun _ _ acc _ _ h0 h1 hr => rel_peek h0 fun _ hk =>
    have ht := peekKey_tail hk
    -- LAYER, LIBRARY, MACRO, NONDEFAULTRULE, PIN, VIA, VIARULE (the object type), a name, then by the key that follows:
    rel_ite ((parseEnum_adv _).rel_bind h0 fun _ _ => getName_adv.rel_bind h0 fun _ _ => getKey_adv.rel_bind h0 fun x _ =>
      rel_ite (rel_ite (hr _ _ (by have := x.2.length_tail; omega)) <|                            -- STRING [value] ;
        (expectTT_adv _).rel_bind h0 fun _ _ => semi_adv.rel_bind h0 fun _ _ => hr _ _ (by omega)) <|
      rel_ite (propDefTail_adv.rel_bind h0 fun _ _ => hr _ _ (by omega)) <|                       -- REAL
      rel_ite (propDefTail_adv.rel_bind h0 fun _ _ => hr _ _ (by omega)) h0) <|                   -- INTEGER
    rel_ite (rel_self h0 fun v e =>                                                               -- END PROPERTYDEFINITIONS
      h1 v (by have := ((expectKey_adv _).map (f := fun _ => acc)) _ _ _ e; dsimp only; omega)) h0

theorem extBody_rel : Shrinks 1 extBody := by
  intro f g acc ts R h0 h1 hr
  cases ts with
  | nil => exact h0                                                                               -- end of input
  | cons t r => exact rel_ite (h1 _ (Nat.le_refl _)) (hr _ _ (Nat.lt_succ_self _))                -- ENDEXT; any other token

theorem libBody_rel : LoopRel (fun _ _ => True) fun f (s : Dec × Lib) ts => libBody f s.1 s.2 ts :=
  fun f g s ts R h0 h1 hr =>
    -- the state is the pair (version, library); `hr _` below is `hr` at the unchanged version
    have hr ver lib r (h : r.length < ts.length) : R (libBody f ver lib r) (libBody g ver lib r) := hr (ver, lib) r h
    rel_ite (h1 _ trivial) <|                                                                     -- end of input, version ≥ 5.6
    rel_peek h0 fun _ hk =>
    have ht := peekKey_tail hk
    rel_ite (rel_guard h0 (hr _)) <|                                                              -- MACRO
    rel_ite (number_adv.rel_bind h0 fun _ _ => semi_adv.rel_bind h0 fun _ _ =>                    -- VERSION: the version changes
      rel_ite (hr _ _ _ (by omega)) h0) <|
    rel_ite ((expectTT_adv _).rel_bind h0 fun x _ => by                                           -- BUSBITCHARS
      dsimp only
      split
      · exact semi_adv.rel_bind h0 fun _ _ => hr _ _ _ (by omega)
      · exact h0) <|
    rel_ite ((expectTT_adv _).rel_bind h0 fun x _ => by                                           -- DIVIDERCHAR
      dsimp only
      split
      · exact semi_adv.rel_bind h0 fun _ _ => hr _ _ _ (by omega)
      · exact h0) <|
    rel_ite (rel_ite h0 <| (parseEnum_adv _).rel_stmt h0 ht (hr _)) <|                            -- NAMESCASESENSITIVE
    rel_ite ((parseEnum_adv _).rel_stmt h0 ht (hr _)) <|                                          -- NOWIREEXTENSIONATPIN
    rel_ite (rel_guard h0 (hr _)) <|                                                              -- UNITS
    rel_ite (rel_guard h0 (hr _)) <|                                                              -- SITE
    rel_ite (rel_self h0 fun v _ => h1 v trivial) <|                                              -- END LIBRARY
    rel_ite (semi_adv.rel_bind h0 fun _ _ => hr _ _ _ (by omega)) <|                              -- FIXEDMASK
    rel_ite ((expectKey_adv _).rel_bind h0 fun _ _ => (parseEnum_adv _).rel_bind h0 fun _ _ =>    -- USEMINSPACING OBS
      semi_adv.rel_bind h0 fun _ _ => hr _ _ _ (by omega)) <|
    rel_ite (rel_guard h0 (hr _)) <|                                                              -- VIA
    rel_ite ((parseEnum_adv _).rel_stmt h0 ht (hr _)) <|                                          -- CLEARANCEMEASURE
    rel_ite (number_adv.rel_stmt h0 ht (hr _)) <|                                                 -- MANUFACTURINGGRID
    rel_ite (rel_bind h0 fun _ _ => rel_guard h0 (hr _)) <|                                       -- BEGINEXT
    rel_ite (rel_guard h0 (hr _)) h0                                                              -- PROPERTYDEFINITIONS

-- The two tactics below have no user; `bind_congr_mem` and `ite_congr_both` are there for `fuel_body`.
/-- destructure a successful monadic chain and finish by arithmetic -/
macro "progress" h:ident : tactic => `(tactic| (
  try simp only [Option.bind_eq_bind, Option.pure_def] at $h:ident
  grind (splits := 40) (ematch := 12) (gen := 12) [Option.bind_eq_some_iff, Option.map_eq_some_iff]))

theorem bind_congr_mem {α β : Type} (o : Option α) (F G : α → Option β) (h : ∀ a, o = some a → F a = G a) : o.bind F = o.bind G := by
  cases o with
  | none => rfl
  | some a => exact h a rfl

theorem ite_congr_both {β : Type} (c : Prop) [Decidable c] (A A' B B' : β) (h1 : c → A = A') (h2 : ¬c → B = B') :
    (if c then A else B) = (if c then A' else B') := by
  split
  · exact h1 ‹_›
  · exact h2 ‹_›

/-- close `body(loop f) = body(loop (f+1))` given `ih : ∀ …, len < f → loop f … = loop (f+1) …` -/
macro "fuel_body" ih:ident : tactic => `(tactic| repeat' (first
  | rfl
  | (apply bind_congr_mem; intro _ _)
  | (apply ite_congr_both <;> intro _)
  | (apply $ih:ident; grind)
  | split))

end L21.Lef
