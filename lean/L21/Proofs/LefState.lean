import L21.Model.LefState
import L21.Proofs.LefLex
/-
The model of the error report (`Model/LefState.lean`): slicing by byte offsets; the bookkeeping lexer `lexStFrom` takes
the steps of `lexFrom`, so it yields the same tokens and its `linestart` is always the byte length of a prefix.
`lexStFrom_succ` is `lexFrom_succ` (`Proofs/LefLex.lean`) once more, as `lexStFrom` is `lexFrom` once more in the model.
-/
namespace L21.LefLex

theorem dropBytes_cons {n : Nat} (c : Char) (l : List Char) (h : 0 < n) :
    dropBytes n (c :: l) = if c.utf8Size ≤ n then dropBytes (n - c.utf8Size) l else none := by
  cases n with
  | zero => cases h
  | succ n => rfl

theorem takeBytes_cons {n : Nat} (c : Char) (l : List Char) (h : 0 < n) :
    takeBytes n (c :: l) = if c.utf8Size ≤ n then (takeBytes (n - c.utf8Size) l).map (c :: ·) else none := by
  cases n with
  | zero => cases h
  | succ n => rfl

theorem dropBytes_append : ∀ (pre suf : List Char), dropBytes (bytes pre) (pre ++ suf) = some suf
  | [], suf => by cases suf <;> rfl
  | c :: r, suf => by
    have hc := Char.utf8Size_pos c
    rw [bytes_cons, List.cons_append, dropBytes_cons c _ (by omega), if_pos (Nat.le_add_right ..), Nat.add_sub_cancel_left,
      dropBytes_append r suf]

theorem takeBytes_append : ∀ (mid suf : List Char), takeBytes (bytes mid) (mid ++ suf) = some mid
  | [], suf => by cases suf <;> rfl
  | c :: r, suf => by
    have hc := Char.utf8Size_pos c
    rw [bytes_cons, List.cons_append, takeBytes_cons c _ (by omega), if_pos (Nat.le_add_right ..), Nat.add_sub_cancel_left,
      takeBytes_append r suf]
    rfl

theorem sliceBytes_of_isSub {src : List Char} {t : Tok} (h : IsSub 0 src t) :
    ∃ mid, mid ≠ [] ∧ sliceBytes t.start t.stop src = some mid := by
  obtain ⟨pre, mid, suf, e, hm, hs, he⟩ := h
  rw [Nat.zero_add] at hs
  refine ⟨mid, hm, ?_⟩
  rw [sliceBytes, if_pos (by omega), hs, e, List.append_assoc, dropBytes_append, Option.bind_some,
    show t.stop - bytes pre = bytes mid by omega, takeBytes_append]

def emitSt (k : Option TT) (start stop line ls : Nat) : Out (List STok × EndSt) → Out (List STok × EndSt)
  | .ok (ts, e) => .ok (match k with | some tt => ⟨⟨tt, start, stop⟩, line, ls⟩ :: ts | none => ts, e)
  | .err => .err

theorem lexStFrom_succ (isWs : Char → Bool) (fuel pos line ls : Nat) (c : Char) (rest : List Char) :
    lexStFrom isWs (fuel + 1) pos line ls (c :: rest) =
      emitSt (chunkOf isWs c rest).2.2 pos (pos + bytes (chunkOf isWs c rest).1) line ls
        (lexStFrom isWs fuel (pos + bytes (chunkOf isWs c rest).1) (if c == '\n' then line + 1 else line)
          (if c == '\n' then pos + bytes (chunkOf isWs c rest).1 else ls) (chunkOf isWs c rest).2.1) := by
  rw [lexStFrom]
  refine chunkOf_cases isWs c rest (fun h1 e => ?_) (fun h1 h2 e => ?_) (fun h1 h2 h3 e => ?_) (fun h1 h2 h3 h4 e => ?_)
    (fun h1 h2 h3 h4 b h5 e => ?_) <;> rw [e]
  · rw [if_pos h1]
    simp only [bytes_cons, Nat.add_assoc]
    by_cases h0 : (c == '\n') = true
    · simp only [h0, if_true]; cases lexStFrom isWs fuel _ _ _ _ <;> rfl
    · simp only [h0, if_false, Bool.false_eq_true]; cases lexStFrom isWs fuel _ _ _ _ <;> rfl
  all_goals
    -- not a line feed: `line` and `linestart` stay
    have h0 : ¬(c == '\n') = true := fun h => h1 (by rw [h]; rfl)
    rw [if_neg h1, if_neg h0, if_neg h0]
  · rw [if_pos h2, beq_iff_eq.1 h2]; rfl
  · rw [if_neg h2, if_pos h3, beq_iff_eq.1 h3]
    generalize spanP (fun d => d != '"') rest = sp
    obtain ⟨body, after⟩ := sp
    simp only [bytes_cons, bytes_append, Nat.add_assoc]
    cases after <;> rfl
  · rw [if_neg h2, if_neg h3, if_pos h4, beq_iff_eq.1 h4]
    simp only [bytes_cons, Nat.add_assoc, usz_hash]
    cases lexStFrom isWs fuel _ _ _ _ <;> rfl
  · rw [if_neg h2, if_neg h3, if_neg h4, ← LefLexRT.numStart, h5]
    simp only [bytes_cons, Nat.add_assoc]
    cases b <;> rfl

def projOut : Out (List STok × EndSt) → Out (List Tok)
  | .ok (ts, _) => .ok (ts.map (·.tok))
  | .err => .err

theorem lexStFrom_tokens (isWs : Char → Bool) : ∀ (fuel pos line ls : Nat) (src : List Char),
    projOut (lexStFrom isWs fuel pos line ls src) = lexFrom isWs fuel pos src
  | 0, _, _, _, _ => rfl
  | _ + 1, _, _, _, [] => rfl
  | fuel + 1, pos, line, ls, c :: rest => by
    rw [lexStFrom_succ, lexFrom_succ, ← lexStFrom_tokens isWs fuel]
    cases lexStFrom isWs fuel _ _ _ _ with
    | err => rfl
    | ok p => cases (chunkOf isWs c rest).2.2 <;> rfl

def LsOk (pos ls0 : Nat) (src : List Char) (x : Nat) : Prop :=
  x = ls0 ∨ ∃ pre suf, src = pre ++ suf ∧ x = pos + bytes pre

def LexStOk (pos ls : Nat) (src : List Char) : Out (List STok × EndSt) → Prop
  | .err => True
  | .ok (ts, e) => (∀ t ∈ ts, LsOk pos ls src t.linestart) ∧ LsOk pos ls src e.linestart ∧ e.pos = pos + bytes src

/-- `ls'`: the line start the rest was lexed with — unchanged, or the position behind the skipped chunk (a line feed) -/
theorem LsOk.shift {pos ls ls' x : Nat} {rest : List Char} (skipped : List Char)
    (hls : ls' = ls ∨ ls' = pos + bytes skipped)
    (h : LsOk (pos + bytes skipped) ls' rest x) : LsOk pos ls (skipped ++ rest) x := by
  rcases h with rfl | ⟨pre, suf, e, hx⟩
  · exact hls.imp id fun h => ⟨skipped, rest, rfl, h⟩
  · exact Or.inr ⟨skipped ++ pre, suf, by rw [e, List.append_assoc], by rw [hx, bytes_append]; omega⟩

theorem LexStOk.shift {pos ls ls' : Nat} {rest : List Char} {r} (skipped : List Char)
    (hls : ls' = ls ∨ ls' = pos + bytes skipped)
    (h : LexStOk (pos + bytes skipped) ls' rest r) (k : Option TT) (s e line : Nat) :
    LexStOk pos ls (skipped ++ rest) (emitSt k s e line ls r) := by
  cases r with
  | err => trivial
  | ok p =>
    obtain ⟨h1, h2, h3⟩ := h
    refine ⟨fun t ht => ?_, h2.shift skipped hls, by rw [h3, bytes_append]; omega⟩
    cases k with
    | none => exact (h1 t ht).shift skipped hls
    | some tt =>
      rcases List.mem_cons.1 ht with rfl | ht
      · exact Or.inl rfl
      · exact (h1 t ht).shift skipped hls

theorem lexStFrom_ok (isWs : Char → Bool) : ∀ (fuel pos line ls : Nat) (src : List Char),
    LexStOk pos ls src (lexStFrom isWs fuel pos line ls src)
  | 0, _, _, _, _ => trivial
  | _ + 1, _, _, _, [] => ⟨fun _ h => (nomatch h), Or.inl rfl, rfl⟩
  | fuel + 1, pos, line, ls, c :: rest => by
    rw [lexStFrom_succ, ← (chunkOf_append isWs c rest).1]
    refine LexStOk.shift _ ?_ (lexStFrom_ok isWs fuel _ _ _ _) _ _ _ _
    by_cases h : (c == '\n') = true
    · exact Or.inr (if_pos h)
    · exact Or.inl (if_neg h)

theorem lineContentAt_some {src pre suf : List Char} (e : src = pre ++ suf) :
    lineContentAt src (bytes pre) = some ((suf.takeWhile (· != '\n')).take maxCharsInLine) := by
  unfold lineContentAt
  rw [e, dropBytes_append]; rfl

theorem reports_ok {isWs : Char → Bool} {src : List Char} {rs : List (Option Report)} (h : reports isWs src = .ok rs) :
    ∃ ts e, lexSt isWs src = .ok (ts, e) ∧ rs = ts.map (reportAt src) ++ [reportEnd src e] := by
  unfold reports at h
  split at h
  · cases h
  · cases h; exact ⟨_, _, ‹_›, rfl⟩

theorem lineContentAt_bounded {src : List Char} {ls : Nat} {lc : List Char} (h : lineContentAt src ls = some lc) :
    lc.length ≤ maxCharsInLine ∧ '\n' ∉ lc := by
  obtain ⟨rest, _, rfl⟩ := Option.map_eq_some_iff.1 h
  exact ⟨List.length_take_le .., fun hm => by
    have := List.all_eq_true.1 List.all_takeWhile _ (List.mem_of_mem_take hm)
    simp at this⟩

end L21.LefLex
