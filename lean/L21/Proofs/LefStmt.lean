import L21.Proofs.LefRT
/-
Statement order in the LEF reader model (C04): a block is read statement by statement, whatever the order.

The same argument is made at six grammar levels (PIN and MACRO here; SITE, UNITS, generated VIA in `LefStmtSub.lean`;
LIBRARY in `LefStmtLib.lean`), with `x`/`X` the level:
1. statements `XStmt` with their tokens `wXStmt`, admissibility `xstmtOk` and update `applyX`;
2. the step `xBody_stmt`: one admissible statement in front of any continuation makes its update and costs one unit of
   fuel; the end step `xBody_end`;
3. `loop_stop_any` (`Proofs/ListFacts.lean`) folds the steps: `c04_x_any_order`;
4. the writer's order `canonXStmts`: the writer prints exactly these statements (`wX_is_rendering`), they are admissible
   when the object is well-formed (`canonX_ok`) and fold to it.  Together: `x_w`.
   SITE, UNITS, VIARULE: `canonX_renders` computes the fold of the canonical sequence.  PIN, MACRO, LIBRARY
   (`Props/C04Order.lean`) characterise every sequence with that fold: the fold field by field (`c04_x_fold_fields`),
   `RendersX ss o` for the sequences that say the object `o` (`c04_x_renders`), the canonical one among them
   (`rendersX_canon`).

  level    XStmt  step             end             any order             writer's order
  PIN      PStmt  pinBody_stmt     pinBody_end     c04_pin_any_order     canonPStmts  wPin_is_rendering        canonP_ok  pin_w
  MACRO    MStmt  macroBody_stmt   macroBody_end   c04_macro_any_order   canonMStmts  wMacroToks_is_rendering  canonM_ok  macro_w
  SITE     SStmt  siteBody_stmt    siteBody_end    c04_site_any_order    canonSStmts  wSite_is_rendering       canonS_ok  site_w
  UNITS    UStmt  unitsBody_stmt   unitsBody_end   c04_units_any_order   canonUStmts  wUnits_is_rendering      canonU_ok  (in `libBody_stmt`)
  VIARULE  GStmt  genViaBody_stmt  genViaBody_end  c04_genvia_any_order  canonGStmts  wGenBody_is_rendering    canonG_ok  viaDataP_w
  LIBRARY  LStmt  libBody_stmt     libBody_end     c04_lib_any_order     canonLStmts  wLibToks_is_rendering    canonL_ok  c05_write_read_tokens
-/
namespace L21.Lef
open L21.LefLex L21.LefEnum L21.Gen

inductive PStmt where
  | dir (d : String × Bool)
  | use (e : String)
  | shape (e : String)
  | amodel (e : String)
  | taper (v : Str)
  | supply (v : Str)
  | ground (v : Str)
  | mustjoin (v : Str)
  | netexpr (v : Str)
  | port (p : Port)
  | prop (p : Prop')
  | antenna (a : Antenna)

def wPStmt : PStmt → List Tok
  | .dir d => wDir d
  | .use e => [kw "Use", en "LefPinUse" e, semiTok]
  | .shape e => [kw "Shape", en "LefPinShape" e, semiTok]
  | .amodel e => [kw "AntennaModel", en "LefAntennaModel" e, semiTok]
  | .taper v => [kw "TaperRule", ident v, semiTok]
  | .supply v => [kw "SupplySensitivity", ident v, semiTok]
  | .ground v => [kw "GroundSensitivity", ident v, semiTok]
  | .mustjoin v => [kw "MustJoin", ident v, semiTok]
  | .netexpr v => [kw "NetExpr", strTok v, semiTok]
  | .port p => wPort p
  | .prop p => wProp p
  | .antenna a => wAntenna a

def pstmtOk : PStmt → Bool
  | .dir d => dirOk d
  | .use e => isVariant "LefPinUse" e
  | .shape e => isVariant "LefPinShape" e
  | .amodel e => isVariant "LefAntennaModel" e
  | .port p => portOk p
  | .antenna a => antennaOk a
  | _ => true

def applyP (p : Pin) : PStmt → Pin
  | .dir d => { p with direction := some d }
  | .use e => { p with use_ := some e }
  | .shape e => { p with shape := some e }
  | .amodel e => { p with antennaModel := some e }
  | .taper v => { p with taperRule := some v }
  | .supply v => { p with supplySensitivity := some v }
  | .ground v => { p with groundSensitivity := some v }
  | .mustjoin v => { p with mustJoin := some v }
  | .netexpr v => { p with netExpr := some v }
  | .port x => { p with ports := p.ports ++ [x] }
  | .prop x => { p with properties := p.properties ++ [x] }
  | .antenna a => { p with antennaAttrs := p.antennaAttrs ++ [a] }

theorem wPStmt_length (s : PStmt) : 1 ≤ (wPStmt s).length := by
  cases s <;> simp [wPStmt, wDir, wPort, wProp, wAntenna]

/-- the keywords `pinBody` tests before `antennaKeys` -/
theorem antennaKey_other {k : String} (h : antennaKeys.contains k = true) :
    k ≠ "End" ∧ k ≠ "Port" ∧ k ≠ "Direction" ∧ k ≠ "Use" ∧ k ≠ "Shape" ∧ k ≠ "AntennaModel" := by
  have hn : ∀ k', k' ∈ ["End", "Port", "Direction", "Use", "Shape", "AntennaModel"] → k ≠ k' :=
    fun k' hk' e => by rw [e, antennaKeys_not k' hk'] at h; cases h
  simpa only [List.mem_cons, List.mem_nil_iff, or_false, forall_eq_or_imp, forall_eq] using hn

theorem pinBody_stmt (f : Nat) (p : Pin) (s : PStmt) (T : List Tok) (h : pstmtOk s = true) :
    pinBody (f + 1) p (wPStmt s ++ T) = pinBody f (applyP p s) T := by
  have hl : T.length < (wPStmt s ++ T).length := length_lt_append (wPStmt_length s)
  cases s with
  | dir d =>
    have hd := pinDirection_w d T h
    have hk : peekKey (wDir d ++ T) = some "Direction" := peekKey_kw _ _ (by simp only [lef])
    rw [wPStmt] at hl ⊢; rw [pinBody]
    simp only [applyP, hk, hd, hl, beq_iff_eq, String.reduceEq, ↓reduceIte, bind_some_eq]
  | port x =>
    have hd := port_w x T h
    have hk : peekKey (wPort x ++ T) = some "Port" := peekKey_kw _ _ (by simp only [lef])
    rw [wPStmt] at hl ⊢; rw [pinBody]
    simp only [applyP, hk, hd, hl, beq_iff_eq, String.reduceEq, ↓reduceIte, bind_some_eq]
  | prop x =>
    have hd := property_w p.properties x T
    have hk : peekKey (wProp x ++ T) = some "Property" := peekKey_kw _ _ (by simp only [lef])
    rw [wPStmt] at hl ⊢; rw [pinBody]
    simp only [applyP, hk, hd, hl, beq_iff_eq, String.reduceEq, ↓reduceIte, bind_some_eq, List.contains_iff_mem,
      antennaKeys, List.mem_cons, List.mem_nil_iff, or_self]
  | antenna a =>
    obtain ⟨hk, hu, hv⟩ := antennaOk_iff.1 h
    cases hp : LefEnum.parse keyTable a.key with
    | none => simp [hp] at hk
    | some k =>
      rw [hp] at hk
      obtain ⟨n1, n2, n3, n4, n5, n6⟩ := antennaKey_other hk
      have hpk : peekKey (wAntenna a ++ T) = some k := hp
      rw [wPStmt, pinBody]
      simp only [applyP, hpk, beq_iff_eq, n1, n2, n3, n4, n5, n6, ↓reduceIte, hk]
      obtain ⟨key, v, l⟩ := a
      cases l <;> simp only [wAntenna, opt, List.cons_append, List.nil_append, lef, hv, upperStr, show upper key = key from hu, ↓reduceIte, List.tail_cons, beq_iff_eq, reduceCtorEq]
  | use e | shape e | amodel e =>
    replace h : isVariant _ e = true := h
    rw [wPStmt, List.cons_append, List.cons_append, List.cons_append, List.nil_append, pinBody]
    simp only [applyP, lef, h, beq_iff_eq, String.reduceEq, ↓reduceIte, List.tail_cons]
  | _ =>
    rw [wPStmt, List.cons_append, List.cons_append, List.cons_append, List.nil_append, pinBody]
    simp only [applyP, lef, beq_iff_eq, String.reduceEq, ↓reduceIte, List.tail_cons, List.contains_iff_mem, antennaKeys,
      List.mem_cons, List.mem_nil_iff, or_self]

theorem pinBody_end (f : Nat) (p : Pin) (T : List Tok) : pinBody (f + 1) p (kw "End" :: T) = some (p, T) := by
  rw [pinBody]; simp only [lef, beq_self_eq_true, ↓reduceIte, List.tail_cons]

def emptyPin (n : Str) : Pin := ⟨n, [], none, none, none, none, [], none, none, none, none, none, []⟩

def wPinStmts (n : Str) (ss : List PStmt) : List Tok :=
  kw "Pin" :: ident n :: (ss.flatMap wPStmt ++ [kw "End", ident n])

/-- PIN statements in every order, every repetition: the reader returns the fold of the per-statement updates, so every
    statement lands in the field it names, none is dropped or merged. -/
theorem c04_pin_any_order (n : Str) (ss : List PStmt) (T : List Tok) (h : ss.all pstmtOk = true) :
    pin (wPinStmts n ss ++ T) = some (ss.foldl applyP (emptyPin n), T) := by
  have hb := loop_stop_any pinBody_stmt (kw "End" :: ident n :: T) _ (fun f p => pinBody_end f p _) ss (emptyPin n)
    (flatMap_fuel wPStmt wPStmt_length ss (kw "End" :: ident n :: T)) h
  simp only [wPinStmts, List.cons_append, List.append_assoc, pin, lef, Option.bind_eq_bind]
  exact congrArg (Option.bind · _) hb |>.trans (by simp only [lef, Option.pure_def])

def PStmt.dir? : PStmt → Option (String × Bool) | .dir d => some d | _ => none
def PStmt.use? : PStmt → Option String | .use d => some d | _ => none
def PStmt.shape? : PStmt → Option String | .shape d => some d | _ => none
def PStmt.amodel? : PStmt → Option String | .amodel d => some d | _ => none
def PStmt.taper? : PStmt → Option Str | .taper d => some d | _ => none
def PStmt.supply? : PStmt → Option Str | .supply d => some d | _ => none
def PStmt.ground? : PStmt → Option Str | .ground d => some d | _ => none
def PStmt.mustjoin? : PStmt → Option Str | .mustjoin d => some d | _ => none
def PStmt.netexpr? : PStmt → Option Str | .netexpr d => some d | _ => none
def PStmt.port? : PStmt → Option Port | .port d => some d | _ => none
def PStmt.prop? : PStmt → Option Prop' | .prop d => some d | _ => none
def PStmt.antenna? : PStmt → Option Antenna | .antenna d => some d | _ => none

inductive MStmt where
  | cls (c : String × Option String × Bool)
  | fixedMask
  | foreign (f : Foreign)
  | origin (p : Pt)
  | source (e : String)
  | eeq (v : Str)
  | size (s : Dec × Dec)
  | symmetry (ss : List String)
  | site (v : Str)
  | obs (ls : List LayerGeoms)
  | density (ls : List DensityGeoms)
  | pin (n : Str) (ss : List PStmt)
  | prop (p : Prop')

def wMStmt : MStmt → List Tok
  | .cls c => wMacroClass c
  | .fixedMask => [kw "FixedMask", semiTok]
  | .foreign f => wForeign f
  | .origin p => kw "Origin" :: (wPt p ++ [semiTok])
  | .source e => [kw "Source", en "LefDefSource" e, semiTok]
  | .eeq v => [kw "Eeq", ident v, semiTok]
  | .size s => [kw "Size", num s.1, kw "By", num s.2, semiTok]
  | .symmetry ss => wSymmetry ss
  | .site v => [kw "Site", ident v, semiTok]
  | .obs ls => kw "Obs" :: (ls.flatMap wLayerGeoms ++ [kw "End"])
  | .density ls => kw "Density" :: (ls.flatMap wDensityLayer ++ [kw "End"])
  | .pin n ss => wPinStmts n ss
  | .prop p => wProp p

def mstmtOk (ver : Dec) : MStmt → Bool
  | .cls c => classOk c
  | .foreign f => foreignOk f
  | .origin p => ptOk p
  | .source e => isVariant "LefDefSource" e && !(v5p4.lt ver)
  | .size s => sizeOk s
  | .symmetry ss => symOk ss
  | .obs ls => ls.all lgOk
  | .density ls => ls.all dlOk
  | .pin _ ss => ss.all pstmtOk
  | _ => true

def applyM (m : Macro) : MStmt → Macro
  | .cls c => { m with cls := some c }
  | .fixedMask => { m with fixedMask := true }
  | .foreign f => { m with foreign := some f }
  | .origin p => { m with origin := some p }
  | .source e => { m with source := some e }
  | .eeq v => { m with eeq := some v }
  | .size s => { m with size := some s }
  | .symmetry ss => { m with symmetry := some ss }
  | .site v => { m with site := some v }
  | .obs ls => { m with obs := ls }
  | .density ls => { m with density := some ls }
  | .pin n ss => { m with pins := m.pins ++ [ss.foldl applyP (emptyPin n)] }
  | .prop p => { m with properties := m.properties ++ [p] }

theorem wMStmt_length (s : MStmt) : 1 ≤ (wMStmt s).length := by
  cases s <;> simp [wMStmt, wMacroClass, wForeign, wSymmetry, wPinStmts, wProp]

theorem macroBody_stmt (ver : Dec) (f : Nat) (m : Macro) (s : MStmt) (T : List Tok) (h : mstmtOk ver s = true) :
    macroBody ver (f + 1) m (wMStmt s ++ T) = macroBody ver f (applyM m s) T := by
  have hl : T.length < (wMStmt s ++ T).length := length_lt_append (wMStmt_length s)
  cases s with
  | cls c =>
    have hd := macroClass_w c T h
    have hk : peekKey (wMacroClass c ++ T) = some "Class" := peekKey_kw _ _ (by simp only [lef])
    rw [wMStmt] at hl ⊢; rw [macroBody]
    simp only [applyM, hk, hd, hl, beq_self_eq_true, ↓reduceIte, bind_some_eq]
  | pin n ss =>
    have hd := c04_pin_any_order n ss T h
    have hk : peekKey (wPinStmts n ss ++ T) = some "Pin" := peekKey_kw _ _ (by simp only [lef])
    rw [wMStmt] at hl ⊢; rw [macroBody]
    simp only [applyM, hk, hd, hl, beq_iff_eq, String.reduceEq, ↓reduceIte, bind_some_eq]
  | prop x =>
    have hd := property_w m.properties x T
    have hk : peekKey (wProp x ++ T) = some "Property" := peekKey_kw _ _ (by simp only [lef])
    rw [wMStmt] at hl ⊢; rw [macroBody]
    simp only [applyM, hk, hd, hl, beq_iff_eq, String.reduceEq, ↓reduceIte, bind_some_eq]
  | size sz =>
    have hd := sizeStmt_w sz T h
    simp only [wMStmt, List.cons_append, List.nil_append] at hl ⊢
    rw [macroBody]
    simp only [applyM, lef, hd, hl, beq_iff_eq, String.reduceEq, ↓reduceIte]
  | symmetry ss =>
    have hd := symmetries_w T ss [] ((wSymmetry ss ++ T).length + 1) (by simp [wSymmetry]; omega) h
    simp only [wMStmt, wSymmetry, List.cons_append, List.nil_append, List.append_assoc] at hl hd ⊢
    rw [macroBody]
    simp only [applyM, lef, hd, hl, beq_iff_eq, String.reduceEq, ↓reduceIte, List.tail_cons]
  | obs ls =>
    have hd := obsBody_w T ls [] ((wMStmt (.obs ls) ++ T).length + 1) (by
      have := flatMap_len_le wLayerGeoms wLayerGeoms_length ls; simp only [wMStmt, List.length_cons, List.length_append]; omega) h
    simp only [wMStmt, List.cons_append, List.nil_append, List.append_assoc] at hl hd ⊢
    rw [macroBody]
    simp only [applyM, lef, hd, hl, beq_iff_eq, String.reduceEq, ↓reduceIte, List.tail_cons]
  | density ls =>
    have hd := densityBody_w T ls [] ((wMStmt (.density ls) ++ T).length + 1) (by
      have := flatMap_len_le wDensityLayer (fun a => Nat.le_trans (by decide) (wDensityLayer_length a)) ls; simp only [wMStmt, List.length_cons, List.length_append]; omega) h
    simp only [wMStmt, List.cons_append, List.nil_append, List.append_assoc] at hl hd ⊢
    rw [macroBody]
    simp only [applyM, lef, hd, hl, beq_iff_eq, String.reduceEq, ↓reduceIte, List.tail_cons]
  | foreign fr =>
    obtain ⟨c, pt, o⟩ := fr
    obtain ⟨hp, ho, hn⟩ := foreignOk_iff.1 h
    cases pt with
    | none =>
      obtain rfl : o = none := hn rfl
      simp only [wMStmt, wForeign, opt, List.cons_append, List.nil_append] at hl ⊢
      rw [macroBody]
      simp only [applyM, lef, hl, beq_iff_eq, String.reduceEq, ↓reduceIte, List.tail_cons]
    | some p =>
      cases o
      all_goals
        simp only [optOk] at hp ho
        simp only [wMStmt, wForeign, opt, wPt, List.cons_append, List.nil_append] at hl ⊢
        rw [macroBody]
        simp only [applyM, lef, hl, hp, ho, beq_iff_eq, reduceCtorEq, String.reduceEq, ↓reduceIte, List.tail_cons]
  | source e | origin p =>
    simp only [mstmtOk, Bool.and_eq_true, Bool.not_eq_true'] at h
    simp only [wMStmt, wPt, List.cons_append, List.nil_append] at hl ⊢
    rw [macroBody]
    simp only [applyM, lef, h, hl, beq_iff_eq, String.reduceEq, ↓reduceIte, List.tail_cons, Bool.false_eq_true]
  | _ =>
    simp only [wMStmt, List.cons_append, List.nil_append] at hl ⊢
    rw [macroBody]
    simp only [applyM, lef, hl, beq_iff_eq, String.reduceEq, ↓reduceIte, List.tail_cons]

theorem macroBody_end (ver : Dec) (f : Nat) (m : Macro) (T : List Tok) : macroBody ver (f + 1) m (kw "End" :: T) = some (m, T) := by
  rw [macroBody]; simp only [lef, beq_iff_eq, String.reduceEq, ↓reduceIte, List.tail_cons]

def emptyMacro (n : Str) : Macro := ⟨n, [], [], none, none, none, none, none, none, none, none, false, [], none⟩

def wMacroStmts (n : Str) (ss : List MStmt) : List Tok :=
  kw "Macro" :: ident n :: (ss.flatMap wMStmt ++ [kw "End", ident n])

/-- MACRO statements in every order, every repetition, each PIN an arbitrary statement sequence: read to the fold of the
    per-statement updates. -/
theorem c04_macro_any_order (ver : Dec) (n : Str) (ss : List MStmt) (T : List Tok) (h : ss.all (mstmtOk ver) = true) :
    macro_ ver (wMacroStmts n ss ++ T) = some (ss.foldl applyM (emptyMacro n), T) := by
  have hb := loop_stop_any (macroBody_stmt ver) (kw "End" :: ident n :: T) _ (fun f m => macroBody_end ver f m _) ss (emptyMacro n)
    (flatMap_fuel wMStmt wMStmt_length ss (kw "End" :: ident n :: T)) h
  simp only [wMacroStmts, List.cons_append, List.append_assoc, macro_, lef, Option.bind_eq_bind]
  exact congrArg (Option.bind · _) hb |>.trans (by simp only [lef, Option.pure_def])

def MStmt.cls? : MStmt → Option (String × Option String × Bool) | .cls d => some d | _ => none
def MStmt.fixedMask? : MStmt → Option Unit | .fixedMask => some () | _ => none
def MStmt.foreign? : MStmt → Option Foreign | .foreign d => some d | _ => none
def MStmt.origin? : MStmt → Option Pt | .origin d => some d | _ => none
def MStmt.source? : MStmt → Option String | .source d => some d | _ => none
def MStmt.eeq? : MStmt → Option Str | .eeq d => some d | _ => none
def MStmt.size? : MStmt → Option (Dec × Dec) | .size d => some d | _ => none
def MStmt.symmetry? : MStmt → Option (List String) | .symmetry d => some d | _ => none
def MStmt.site? : MStmt → Option Str | .site d => some d | _ => none
def MStmt.obs? : MStmt → Option (List LayerGeoms) | .obs d => some d | _ => none
def MStmt.density? : MStmt → Option (List DensityGeoms) | .density d => some d | _ => none
def MStmt.pin? : MStmt → Option Pin | .pin n ss => some (ss.foldl applyP (emptyPin n)) | _ => none
def MStmt.prop? : MStmt → Option Prop' | .prop d => some d | _ => none

end L21.Lef
