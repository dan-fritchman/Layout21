import L21.Proofs.LefStmt
import L21.Proofs.LefStmtSub
import L21.Proofs.LefRTLib
/-
Statement order at library level (reader model; C04).

Library statements are not freely permutable: the reader carries a session VERSION that gates NAMESCASESENSITIVE and
MACRO SOURCE (5.4 and below only) and refuses a VERSION above 5.4 that follows such statements.  `runL` is that session
as a fold with guards over an arbitrary statement sequence (each MACRO an arbitrary statement sequence with arbitrarily
ordered pins, `LefStmt.lean`).  Admissibility depends on what has been read (`guardL ver lib`), so `libBody_stmts` makes
the induction of `loop_stop_any` itself; `okAt` is the part of the guard that does not look at the state.

* `c04_lib_any_order`: for every statement sequence the session admits, in whatever order and with whatever repetition,
  the reader model returns exactly the library the session builds — every statement lands in its field, every
  definition (VIA, SITE, MACRO, extension, property definition) is appended in the order written;
* `c04_lib_any_order_noend`: the same without `END LIBRARY` when the session version is ≥ 5.6;
* `runL_fixed`: once the version is fixed, every order of statements admissible at that version is admitted, and the
  result is the plain fold `applyL`.
-/
namespace L21.Lef
open L21.LefLex L21.LefEnum L21.Gen

-- a UNITS block: `.unitsS us` by its sub-statements in any order, `.units u` by its value, printed in the writer's order
-- (= `.unitsS (canonUStmts u)`, see `libBody_stmt`)
inductive LStmt where
  | unitsS (us : List UStmt)
  | version (d : Dec)
  | busbit (p : Char × Char)
  | divider (c : Char)
  | ncs (e : String)
  | nowire (e : String)
  | units (u : Units)
  | mfg (d : Dec)
  | ums (e : String)
  | clearance (e : String)
  | propdefs (ds : List PropDef)
  | fixedMask
  | via (v : ViaDef)
  | site (s : Site)
  | macro (n : Str) (ss : List MStmt)
  | ext (e : Str × Str)

def wLStmt : LStmt → List Tok
  | .version d => [kw "Version", num d, semiTok]
  | .busbit p => [kw "BusBitChars", strTok ['"', p.1, p.2, '"'], semiTok]
  | .divider c => [kw "DividerChar", strTok ['"', c, '"'], semiTok]
  | .ncs e => [kw "NamesCaseSensitive", en "LefOnOff" e, semiTok]
  | .nowire e => [kw "NoWireExtensionAtPin", en "LefOnOff" e, semiTok]
  | .units u => wUnits u
  | .unitsS us => kw "Units" :: (us.flatMap wUStmt ++ [kw "End", kw "Units"])
  | .mfg d => [kw "ManufacturingGrid", num d, semiTok]
  | .ums e => [kw "UseMinSpacing", kw "Obs", en "LefOnOff" e, semiTok]
  | .clearance e => [kw "ClearanceMeasure", en "LefClearanceStyle" e, semiTok]
  | .propdefs ds => kw "PropertyDefinitions" :: (ds.flatMap wPropDef ++ [kw "End", kw "PropertyDefinitions"])
  | .fixedMask => [kw "FixedMask", semiTok]
  | .via v => wViaToks v
  | .site s => wSite s
  | .macro n ss => wMacroStmts n ss
  | .ext e => wExt e

def applyL (lib : Lib) : LStmt → Lib
  | .version d => { lib with version := some d }
  | .busbit p => { lib with busBitChars := some p }
  | .divider c => { lib with dividerChar := some c }
  | .ncs e => { lib with namesCaseSensitive := some e }
  | .nowire e => { lib with noWireExt := some e }
  | .units u => { lib with units := some u }
  | .unitsS us => { lib with units := some (us.foldl applyU {}) }
  | .mfg d => { lib with mfgGrid := some d }
  | .ums e => { lib with useMinSpacing := some e }
  | .clearance e => { lib with clearance := some e }
  | .propdefs ds => { lib with propDefs := lib.propDefs ++ ds }
  | .fixedMask => { lib with fixedMask := true }
  | .via v => { lib with vias := lib.vias ++ [v] }
  | .site s => { lib with sites := lib.sites ++ [s] }
  | .macro n ss => { lib with macros := lib.macros ++ [ss.foldl applyM (emptyMacro n)] }
  | .ext e => { lib with extensions := lib.extensions ++ [e] }

def guardL (ver : Dec) (lib : Lib) : LStmt → Bool
  | .version d => decOk d && versionOk d && !(v5p4.lt d && (lib.namesCaseSensitive.isSome || lib.macros.any (·.source.isSome)))
  | .ncs e => isVariant "LefOnOff" e && !(v5p4.lt ver)
  | .nowire e => isVariant "LefOnOff" e
  | .units u => unitsOk u
  | .unitsS us => us.all ustmtOk
  | .mfg d => decOk d
  | .ums e => isVariant "LefOnOff" e
  | .clearance e => isVariant "LefClearanceStyle" e
  | .propdefs ds => ds.all pdOk
  | .via v => viaOk v
  | .site s => siteOk s
  | .macro _ ss => ss.all (mstmtOk ver)
  | .ext e => extOk e
  | _ => true

def verAfter (ver : Dec) : LStmt → Dec
  | .version d => d
  | _ => ver

def runL : Dec → Lib → List LStmt → Option (Dec × Lib)
  | ver, lib, [] => some (ver, lib)
  | ver, lib, s :: r => if guardL ver lib s then runL (verAfter ver s) (applyL lib s) r else none

theorem wLStmt_length (s : LStmt) : 1 ≤ (wLStmt s).length := by
  cases s <;> simp [wLStmt, wUnits, wViaToks, wSite, wMacroStmts, wExt]

theorem libBody_stmt (f : Nat) (ver : Dec) (lib : Lib) (s : LStmt) (T : List Tok) (h : guardL ver lib s = true) :
    libBody (f + 1) ver lib (wLStmt s ++ T) = libBody f (verAfter ver s) (applyL lib s) T := by
  have hl : T.length < (wLStmt s ++ T).length := length_lt_append (wLStmt_length s)
  have hus : ∀ us : List UStmt, us.all ustmtOk = true →
      libBody (f + 1) ver lib (wLStmt (.unitsS us) ++ T) = libBody f ver { lib with units := some (us.foldl applyU {}) } T := by
    intro us hu
    have hd := c04_units_any_order us T ((wLStmt (.unitsS us) ++ T).length + 1) hu (by
      simp only [wLStmt, List.length_cons, List.length_append]; omega)
    have hl : T.length < (wLStmt (.unitsS us) ++ T).length := length_lt_append (wLStmt_length _)
    simp only [wLStmt, List.cons_append, List.nil_append, List.append_assoc] at hl hd ⊢
    rw [libBody]
    simp only [List.isEmpty_cons, Bool.false_and, lef, hd, hl, beq_iff_eq, String.reduceEq, ↓reduceIte, List.tail_cons,
      Bool.false_eq_true]
  cases s with
  | unitsS us => exact hus us h
  | units u =>
    have := hus (canonUStmts u) (canonU_ok u h)
    rwa [canonU_renders, show wLStmt (.unitsS (canonUStmts u)) = wLStmt (.units u) from (wUnits_is_rendering u).symm] at this
  | version d | ncs e | nowire e | ums e | clearance e | mfg d =>
    simp only [guardL, Bool.and_eq_true, Bool.not_eq_true'] at h
    simp only [wLStmt, List.cons_append, List.nil_append]
    rw [libBody]
    simp only [verAfter, applyL, List.isEmpty_cons, Bool.false_and, lef, h, beq_iff_eq, String.reduceEq, ↓reduceIte,
      List.tail_cons, Bool.false_eq_true, Bool.not_false, Bool.and_self]
  | busbit p | divider c | fixedMask =>
    simp only [wLStmt, List.cons_append, List.nil_append]
    rw [libBody]
    simp only [verAfter, applyL, List.isEmpty_cons, Bool.false_and, lef, beq_iff_eq, String.reduceEq, ↓reduceIte,
      List.tail_cons, Bool.false_eq_true]
  | propdefs ds =>
    have hd := propDefs_w T ds [] ((wLStmt (.propdefs ds) ++ T).length + 1) (by
      have := flatMap_len_le wPropDef (fun a => by cases a <;> simp [wPropDef]) ds
      simp only [wLStmt, List.length_cons, List.length_append]; omega) h
    simp only [wLStmt, List.cons_append, List.nil_append, List.append_assoc] at hl hd ⊢
    rw [libBody]
    simp only [verAfter, applyL, List.isEmpty_cons, Bool.false_and, lef, hd, hl, beq_iff_eq, String.reduceEq, ↓reduceIte,
      List.tail_cons, Bool.false_eq_true]
  | via v =>
    have hd := viaDef_w v T h
    have hk : peekKey (wViaToks v ++ T) = some "Via" := peekKey_kw _ _ (by simp only [lef])
    rw [wLStmt] at hl ⊢; rw [libBody]
    simp only [verAfter, applyL, show (wViaToks v ++ T).isEmpty = false from rfl, Bool.false_and, hk, hd, hl, beq_iff_eq,
      String.reduceEq, ↓reduceIte, bind_some_eq, Bool.false_eq_true]
  | site x =>
    have hd := site_w x T h
    have hk : peekKey (wSite x ++ T) = some "Site" := peekKey_kw _ _ (by simp only [lef])
    rw [wLStmt] at hl ⊢; rw [libBody]
    simp only [verAfter, applyL, show (wSite x ++ T).isEmpty = false from rfl, Bool.false_and, hk, hd, hl, beq_iff_eq,
      String.reduceEq, ↓reduceIte, bind_some_eq, Bool.false_eq_true]
  | «macro» n ss =>
    have hd := c04_macro_any_order ver n ss T h
    have hk : peekKey (wMacroStmts n ss ++ T) = some "Macro" := peekKey_kw _ _ (by simp only [lef])
    rw [wLStmt] at hl ⊢; rw [libBody]
    simp only [verAfter, applyL, show (wMacroStmts n ss ++ T).isEmpty = false from rfl, Bool.false_and, hk, hd, hl, beq_self_eq_true,
      ↓reduceIte, bind_some_eq, Bool.false_eq_true]
  | ext e =>
    obtain ⟨n, data⟩ := e
    replace h := extOk_iff.1 h
    have hd := extBody_w T (extTokens data) [] ((extTokens data ++ kw "EndExtension" :: T).length + 1) (by
      rw [List.length_append]; omega) h.1
    rw [h.2] at hd
    simp only [wLStmt, wExt, List.cons_append, List.nil_append, List.append_assoc] at hl ⊢
    rw [libBody]
    simp only [verAfter, applyL, List.isEmpty_cons, Bool.false_and, lef, hd, hl, beq_iff_eq, String.reduceEq, ↓reduceIte,
      List.tail_cons, Bool.false_eq_true, List.nil_append]

theorem libBody_end (f : Nat) (ver : Dec) (lib : Lib) (T : List Tok) :
    libBody (f + 1) ver lib (kw "End" :: kw "Library" :: T) = some lib := by
  rw [libBody]
  simp only [List.isEmpty_cons, Bool.false_and, lef, beq_iff_eq, String.reduceEq, ↓reduceIte, List.tail_cons, Option.map_some,
    Bool.false_eq_true]

theorem libBody_stmts (T : List Tok) : ∀ (ss : List LStmt) (ver : Dec) (lib : Lib) (f : Nat) (v' : Dec) (l' : Lib),
    runL ver lib ss = some (v', l') → libBody (f + ss.length) ver lib (ss.flatMap wLStmt ++ T) = libBody f v' l' T := by
  intro ss
  induction ss with
  | nil => intro ver lib f v' l' h; cases h; rfl
  | cons s r ih =>
    intro ver lib f v' l' h
    rw [runL] at h
    split at h
    · rename_i hg
      rw [List.flatMap_cons, List.append_assoc, List.length_cons, ← Nat.add_assoc, libBody_stmt _ ver lib s _ hg, ih _ _ f v' l' h]
    · cases h

def wLibStmts (ss : List LStmt) : List Tok := ss.flatMap wLStmt ++ [kw "End", kw "Library"]

theorem c04_lib_any_order (ss : List LStmt) (ver : Dec) (lib : Lib) (v' : Dec) (l' : Lib) (T : List Tok)
    (h : runL ver lib ss = some (v', l')) :
    libBody ((wLibStmts ss ++ T).length + 1) ver lib (wLibStmts ss ++ T) = some l' := by
  have hl := flatMap_len_le wLStmt wLStmt_length ss
  obtain ⟨g, hg⟩ : ∃ g, (wLibStmts ss ++ T).length + 1 = g + 1 + ss.length :=
    ⟨(wLibStmts ss ++ T).length - ss.length, by simp only [wLibStmts, List.length_append]; omega⟩
  rw [hg, wLibStmts, List.append_assoc, libBody_stmts _ ss ver lib (g + 1) v' l' h]
  exact libBody_end g v' l' T

theorem c04_lib_any_order_noend (ss : List LStmt) (ver : Dec) (lib : Lib) (v' : Dec) (l' : Lib)
    (h : runL ver lib ss = some (v', l')) (hv : v5p6.le v' = true) :
    libBody ((ss.flatMap wLStmt).length + 1) ver lib (ss.flatMap wLStmt) = some l' := by
  have hl := flatMap_len_le wLStmt wLStmt_length ss
  obtain ⟨g, hg⟩ : ∃ g, (ss.flatMap wLStmt).length + 1 = g + 1 + ss.length := ⟨(ss.flatMap wLStmt).length - ss.length, by omega⟩
  have hb := libBody_stmts [] ss ver lib (g + 1) v' l' h
  rw [List.append_nil] at hb
  rw [hg, hb, libBody]
  simp [hv]

def okAt (v : Dec) : LStmt → Bool
  | .version _ => false
  | s => guardL v {} s

theorem guardL_of_okAt (v : Dec) (lib : Lib) (s : LStmt) (h : okAt v s = true) : guardL v lib s = true ∧ verAfter v s = v := by
  cases s <;> simp_all [okAt, guardL, verAfter]

theorem runL_fixed (v : Dec) : ∀ (ss : List LStmt) (lib : Lib), ss.all (okAt v) = true → runL v lib ss = some (v, ss.foldl applyL lib) := by
  intro ss
  induction ss with
  | nil => intro lib _; rfl
  | cons s r ih =>
    intro lib h
    simp only [List.all_cons, Bool.and_eq_true] at h
    obtain ⟨hg, hv⟩ := guardL_of_okAt v lib s h.1
    simp only [runL, hg, if_true, hv, List.foldl_cons]
    exact ih _ h.2

def LStmt.busbit? : LStmt → Option (Char × Char) | .busbit d => some d | _ => none
def LStmt.divider? : LStmt → Option Char | .divider d => some d | _ => none
def LStmt.ncs? : LStmt → Option String | .ncs d => some d | _ => none
def LStmt.nowire? : LStmt → Option String | .nowire d => some d | _ => none
def LStmt.units? : LStmt → Option Units | .units d => some d | .unitsS us => some (us.foldl applyU {}) | _ => none
def LStmt.mfg? : LStmt → Option Dec | .mfg d => some d | _ => none
def LStmt.ums? : LStmt → Option String | .ums d => some d | _ => none
def LStmt.clearance? : LStmt → Option String | .clearance d => some d | _ => none
def LStmt.version? : LStmt → Option Dec | .version d => some d | _ => none
def LStmt.propdefs? : LStmt → Option (List PropDef) | .propdefs d => some d | _ => none
def LStmt.fixedMask? : LStmt → Option Unit | .fixedMask => some () | _ => none
def LStmt.via? : LStmt → Option ViaDef | .via d => some d | _ => none
def LStmt.site? : LStmt → Option Site | .site d => some d | _ => none
def LStmt.macro? : LStmt → Option Macro | .macro n ss => some (ss.foldl applyM (emptyMacro n)) | _ => none
def LStmt.ext? : LStmt → Option (Str × Str) | .ext d => some d | _ => none

end L21.Lef
