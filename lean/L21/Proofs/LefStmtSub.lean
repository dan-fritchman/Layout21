import L21.Proofs.LefRT
/-
Sub-statement order inside SITE definitions, UNITS blocks and generated VIA (VIARULE) bodies (C04), in the form of
`LefStmt.lean`.  A SITE needs its CLASS and SIZE somewhere in the sequence, a generated via its four mandatory
statements: what the reader checks at END.  With the writer's order, the round trip of a whole via definition.
-/
namespace L21.Lef
open L21.LefLex L21.LefEnum L21.Gen

inductive SStmt where
  | cls (e : String)
  | symmetry (ss : List String)
  | size (sz : Dec × Dec)

def wSStmt : SStmt → List Tok
  | .cls e => [kw "Class", en "LefSiteClass" e, semiTok]
  | .symmetry ss => wSymmetry ss
  | .size sz => [kw "Size", num sz.1, kw "By", num sz.2, semiTok]

def sstmtOk : SStmt → Bool
  | .cls e => isVariant "LefSiteClass" e
  | .symmetry ss => symOk ss
  | .size sz => sizeOk sz

def applyS (b : SiteB) : SStmt → SiteB
  | .cls e => { b with cls := some e }
  | .symmetry ss => { b with symmetry := some ss }
  | .size sz => { b with size := some sz }

theorem wSStmt_length (s : SStmt) : 1 ≤ (wSStmt s).length := by cases s <;> simp [wSStmt, wSymmetry]

theorem siteBody_stmt (name : Str) (f : Nat) (b : SiteB) (s : SStmt) (T : List Tok) (h : sstmtOk s = true) :
    siteBody name (f + 1) b (wSStmt s ++ T) = siteBody name f (applyS b s) T := by
  have hl : T.length < (wSStmt s ++ T).length := length_lt_append (wSStmt_length s)
  cases s with
  | cls e =>
    replace h : isVariant _ e = true := h
    simp only [wSStmt, List.cons_append, List.nil_append] at hl ⊢
    rw [siteBody]
    simp only [applyS, lef, h, hl, beq_iff_eq, String.reduceEq, ↓reduceIte, List.tail_cons]
  | symmetry ss =>
    have hd := symmetries_w T ss [] ((wSymmetry ss ++ T).length + 1) (by simp [wSymmetry]; omega) h
    simp only [wSStmt, wSymmetry, List.cons_append, List.nil_append, List.append_assoc] at hl hd ⊢
    rw [siteBody]
    simp only [applyS, lef, hd, hl, beq_iff_eq, String.reduceEq, ↓reduceIte, List.tail_cons]
  | size sz =>
    have hd := sizeStmt_w sz T h
    simp only [wSStmt, List.cons_append, List.nil_append] at hl ⊢
    rw [siteBody]
    simp only [applyS, lef, hd, hl, beq_iff_eq, String.reduceEq, ↓reduceIte]

theorem siteBody_end (name : Str) (f : Nat) (b : SiteB) (T : List Tok) :
    siteBody name (f + 1) b (kw "End" :: ident name :: T) =
      match b.cls, b.size with | some c, some s => some (⟨name, c, s, b.symmetry⟩, T) | _, _ => none := by
  rw [siteBody]; simp only [lef, beq_self_eq_true, ↓reduceIte, List.tail_cons]; rfl

/-- SITE sub-statements in every order: whenever the sequence contains a CLASS and a SIZE (the reader refuses the block
    otherwise), the site read is the fold's: last CLASS, last SIZE, last SYMMETRY (if any). -/
theorem c04_site_any_order (name : Str) (ss : List SStmt) (T : List Tok) (h : ss.all sstmtOk = true)
    (c : String) (sz : Dec × Dec) (sym : Option (List String)) (hf : ss.foldl applyS {} = ⟨some c, some sz, sym⟩) :
    site (kw "Site" :: ident name :: (ss.flatMap wSStmt ++ kw "End" :: ident name :: T)) = some (⟨name, c, sz, sym⟩, T) := by
  have hb := loop_stop_any (siteBody_stmt name) (kw "End" :: ident name :: T) _ (fun f b => siteBody_end name f b T) ss {}
    (flatMap_fuel wSStmt wSStmt_length ss (kw "End" :: ident name :: T)) h
  rw [hf] at hb
  simp only [site, lef, Option.bind_eq_bind, hb]

def canonSStmts (s : Site) : List SStmt := [.cls s.cls] ++ s.symmetry.toList.map .symmetry ++ [.size s.size]

theorem wSite_is_rendering (s : Site) :
    wSite s = kw "Site" :: ident s.name :: ((canonSStmts s).flatMap wSStmt ++ [kw "End", ident s.name]) := by
  simp only [wSite, canonSStmts, List.flatMap_append, List.flatMap_map, flatMap_toList, List.flatMap_cons, List.flatMap_nil, wSStmt,
    List.cons_append, List.nil_append, List.append_assoc, List.append_nil]

theorem canonS_renders (s : Site) : (canonSStmts s).foldl applyS {} = ⟨some s.cls, some s.size, s.symmetry⟩ := by
  obtain ⟨name, cls, size, sym⟩ := s
  cases sym <;> rfl

theorem canonS_ok (s : Site) (h : siteOk s = true) : (canonSStmts s).all sstmtOk = true := by
  replace h := siteOk_iff.1 h
  simp only [canonSStmts, List.all_append, List.all_map, Function.comp_def, List.all_cons, List.all_nil, sstmtOk, all_toList, h,
    Bool.and_self]

theorem site_w (s : Site) (T : List Tok) (h : siteOk s = true) : site (wSite s ++ T) = some (s, T) := by
  rw [wSite_is_rendering]
  simp only [List.cons_append, List.append_assoc]
  exact c04_site_any_order s.name _ T (canonS_ok s h) _ _ _ (canonS_renders s)

inductive UStmt where
  | time (d : Dec) | cap (d : Dec) | res (d : Dec) | power (d : Dec) | current (d : Dec) | voltage (d : Dec)
  | freq (d : Dec) | dbu (v : Int)

def wUStmt : UStmt → List Tok
  | .time d => [kw "Time", kw "Nanoseconds", num d, semiTok]
  | .cap d => [kw "Capacitance", kw "Picofarads", num d, semiTok]
  | .res d => [kw "Resistance", kw "Ohms", num d, semiTok]
  | .power d => [kw "Power", kw "Milliwatts", num d, semiTok]
  | .current d => [kw "Current", kw "Milliamps", num d, semiTok]
  | .voltage d => [kw "Voltage", kw "Volts", num d, semiTok]
  | .freq d => [kw "Frequency", kw "Megahertz", num d, semiTok]
  | .dbu v => [kw "Database", kw "Microns", num ⟨v, 0⟩, semiTok]

def ustmtOk : UStmt → Bool
  | .dbu v => dbuOk v
  | .time d | .cap d | .res d | .power d | .current d | .voltage d | .freq d => decOk d

def applyU (u : Units) : UStmt → Units
  | .time d => { u with time := some d }
  | .cap d => { u with cap := some d }
  | .res d => { u with res := some d }
  | .power d => { u with power := some d }
  | .current d => { u with current := some d }
  | .voltage d => { u with voltage := some d }
  | .freq d => { u with freq := some d }
  | .dbu v => { u with dbu := some v }

theorem wUStmt_length (s : UStmt) : 1 ≤ (wUStmt s).length := by cases s <;> simp [wUStmt]

theorem unitsBody_stmt (f : Nat) (u : Units) (s : UStmt) (T : List Tok) (h : ustmtOk s = true) :
    unitsBody (f + 1) u (wUStmt s ++ T) = unitsBody f (applyU u s) T := by
  cases s with
  | dbu v =>
    simp only [wUStmt, List.cons_append, List.nil_append]
    rw [unitsBody]
    simp only [applyU, lef, dbuOk_iff.1 h, beq_self_eq_true, ↓reduceIte, Option.map_some]
  | _ =>
    replace h : decOk _ = true := h
    simp only [wUStmt, List.cons_append, List.nil_append]
    rw [unitsBody]
    simp only [applyU, lef, h, beq_iff_eq, String.reduceEq, ↓reduceIte]

theorem unitsBody_end (f : Nat) (u : Units) (T : List Tok) : unitsBody (f + 1) u (kw "End" :: kw "Units" :: T) = some (u, T) := by
  rw [unitsBody]; simp only [lef, beq_iff_eq, String.reduceEq, ↓reduceIte, Option.map_some]

/-- UNITS sub-statements in every order, every repetition, are read to the fold of their updates -/
theorem c04_units_any_order (ss : List UStmt) (T : List Tok) (F : Nat) (h : ss.all ustmtOk = true)
    (hF : (ss.flatMap wUStmt).length + 1 ≤ F) :
    unitsBody F {} (ss.flatMap wUStmt ++ kw "End" :: kw "Units" :: T) = some (ss.foldl applyU {}, T) :=
  loop_stop_any unitsBody_stmt (kw "End" :: kw "Units" :: T) _ (fun f u => unitsBody_end f u T) ss {}
    (by have := flatMap_len_le wUStmt wUStmt_length ss; omega) h

def canonUStmts (u : Units) : List UStmt :=
  u.time.toList.map .time ++ u.cap.toList.map .cap ++ u.res.toList.map .res ++ u.power.toList.map .power ++
    u.current.toList.map .current ++ u.voltage.toList.map .voltage ++ u.dbu.toList.map .dbu ++ u.freq.toList.map .freq

theorem wUnits_is_rendering (u : Units) : wUnits u = kw "Units" :: ((canonUStmts u).flatMap wUStmt ++ [kw "End", kw "Units"]) := by
  simp [wUnits, canonUStmts, List.flatMap_append, List.flatMap_map, flatMap_toList, wUStmt]

/-- field after field (one case split per field; all fields at once would be 2⁸ cases): the block of an optional field
    overwrites the field if it is present, whatever the state -/
theorem canonU_renders (u : Units) : (canonUStmts u).foldl applyU {} = u := by
  obtain ⟨dbu, time, cap, res, power, current, voltage, freq⟩ := u
  have e1 (s : Units) : (time.toList.map UStmt.time).foldl applyU s = { s with time := time.or s.time } := by cases time <;> rfl
  have e2 (s : Units) : (cap.toList.map UStmt.cap).foldl applyU s = { s with cap := cap.or s.cap } := by cases cap <;> rfl
  have e3 (s : Units) : (res.toList.map UStmt.res).foldl applyU s = { s with res := res.or s.res } := by cases res <;> rfl
  have e4 (s : Units) : (power.toList.map UStmt.power).foldl applyU s = { s with power := power.or s.power } := by cases power <;> rfl
  have e5 (s : Units) : (current.toList.map UStmt.current).foldl applyU s = { s with current := current.or s.current } := by
    cases current <;> rfl
  have e6 (s : Units) : (voltage.toList.map UStmt.voltage).foldl applyU s = { s with voltage := voltage.or s.voltage } := by
    cases voltage <;> rfl
  have e7 (s : Units) : (dbu.toList.map UStmt.dbu).foldl applyU s = { s with dbu := dbu.or s.dbu } := by cases dbu <;> rfl
  have e8 (s : Units) : (freq.toList.map UStmt.freq).foldl applyU s = { s with freq := freq.or s.freq } := by cases freq <;> rfl
  simp only [canonUStmts, List.foldl_append, e1, e2, e3, e4, e5, e6, e7, e8, Option.or_none]

theorem canonU_ok (u : Units) (h : unitsOk u = true) : (canonUStmts u).all ustmtOk = true := by
  replace h := unitsOk_iff.1 h
  simp only [canonUStmts, List.all_append, List.all_map, Function.comp_def, ustmtOk, all_toList, h, Bool.and_self]

inductive GStmt where
  | cutSize (v : Dec × Dec)
  | layers (v : Str × Str × Str)
  | cutSpacing (v : Dec × Dec)
  | enclosure (v : Dec × Dec × Dec × Dec)
  | rowcol (v : Dec × Dec)
  | origin (v : Pt)
  | offset (v : Dec × Dec × Dec × Dec)

def wGStmt : GStmt → List Tok
  | .cutSize v => [kw "CutSize", num v.1, num v.2, semiTok]
  | .layers v => [kw "Layers", ident v.1, ident v.2.1, ident v.2.2, semiTok]
  | .cutSpacing v => [kw "CutSpacing", num v.1, num v.2, semiTok]
  | .enclosure v => [kw "Enclosure", num v.1, num v.2.1, num v.2.2.1, num v.2.2.2, semiTok]
  | .rowcol v => [kw "RowCol", num v.1, num v.2, semiTok]
  | .origin v => kw "Origin" :: (wPt v ++ [semiTok])
  | .offset v => [kw "Offset", num v.1, num v.2.1, num v.2.2.1, num v.2.2.2, semiTok]

def gstmtOk : GStmt → Bool
  | .cutSize v | .cutSpacing v | .rowcol v => d2Ok v
  | .layers _ => true
  | .enclosure v | .offset v => d4Ok v
  | .origin v => ptOk v

def applyG (g : GenB) : GStmt → GenB
  | .cutSize v => { g with cutSize := some v }
  | .layers v => { g with layers := some v }
  | .cutSpacing v => { g with cutSpacing := some v }
  | .enclosure v => { g with enclosure := some v }
  | .rowcol v => { g with rowcol := some v }
  | .origin v => { g with origin := some v }
  | .offset v => { g with offset := some v }

/-- `genViaBody` puts no guard in front of its recursive calls: each branch consumes its keyword -/
theorem genViaBody_stmt (f : Nat) (g : GenB) (s : GStmt) (T : List Tok) (h : gstmtOk s = true) :
    genViaBody (f + 1) g (wGStmt s ++ T) = genViaBody f (applyG g s) T := by
  cases s with
  | cutSize v | cutSpacing v | rowcol v =>
    simp only [wGStmt, List.cons_append, List.nil_append]
    rw [genViaBody]
    simp only [applyG, lef, num2_w _ _ _ (d2Ok_iff.1 h).1 (d2Ok_iff.1 h).2, beq_iff_eq, String.reduceEq, ↓reduceIte, List.tail_cons]
  | enclosure v | offset v =>
    obtain ⟨h1, h2, h3, h4⟩ := d4Ok_iff.1 h
    simp only [wGStmt, List.cons_append, List.nil_append]
    rw [genViaBody]
    simp only [applyG, lef, num4_w _ _ _ _ _ h1 h2 h3 h4, beq_iff_eq, String.reduceEq, ↓reduceIte, List.tail_cons]
  | layers v =>
    simp only [wGStmt, List.cons_append, List.nil_append]
    rw [genViaBody]
    simp only [applyG, lef, beq_iff_eq, String.reduceEq, ↓reduceIte, List.tail_cons]
  | origin v =>
    replace h : ptOk v = true := h
    simp only [wGStmt, wPt, List.cons_append, List.nil_append]
    rw [genViaBody]
    simp only [applyG, lef, h, beq_iff_eq, String.reduceEq, ↓reduceIte, List.tail_cons]

theorem wGStmt_length (s : GStmt) : 1 ≤ (wGStmt s).length := by cases s <;> simp [wGStmt]

theorem genViaBody_end (f : Nat) (g : GenB) (T : List Tok) : genViaBody (f + 1) g (kw "End" :: T) = some (g, kw "End" :: T) := by
  rw [genViaBody]; simp only [lef, beq_iff_eq, String.reduceEq, ↓reduceIte]

/-- Generated-via statements in every order, every repetition: read to the fold of their updates, up to the END that
    closes the via (left in place for `parse_via`). -/
theorem c04_genvia_any_order (T : List Tok) : ∀ (ss : List GStmt) (g : GenB) (f : Nat), ss.length + 1 ≤ f → ss.all gstmtOk = true →
    genViaBody f g (ss.flatMap wGStmt ++ kw "End" :: T) = some (ss.foldl applyG g, kw "End" :: T) :=
  fun ss g _ hf h => loop_stop_any genViaBody_stmt (kw "End" :: T) _ (fun f g => genViaBody_end f g T) ss g hf h

def canonGStmts (g : GenVia) : List GStmt :=
  [.cutSize g.cutSize, .layers g.layers, .cutSpacing g.cutSpacing, .enclosure g.enclosure] ++ g.rowcol.toList.map .rowcol ++
    g.origin.toList.map .origin ++ g.offset.toList.map .offset

theorem wGenBody_is_rendering (g : GenVia) : wGenBody g = (canonGStmts g).flatMap wGStmt := by
  simp only [wGenBody, canonGStmts, List.flatMap_append, List.flatMap_map, flatMap_toList, List.flatMap_cons, wGStmt, wOrigin_def,
    List.cons_append, List.nil_append, List.append_assoc]

theorem canonG_renders (g : GenVia) : (canonGStmts g).foldl applyG { rule := g.rule } =
    ⟨g.rule, some g.cutSize, some g.layers, some g.cutSpacing, some g.enclosure, g.rowcol, g.origin, g.offset⟩ := by
  obtain ⟨rule, cs, ls, sp, en, rc, og, off⟩ := g
  cases rc <;> cases og <;> cases off <;> rfl

theorem canonG_ok (g : GenVia) (h : genOk g = true) : (canonGStmts g).all gstmtOk = true := by
  replace h := genOk_iff.1 h
  simp only [canonGStmts, List.all_append, List.all_map, Function.comp_def, List.all_cons, List.all_nil, gstmtOk, all_toList, h,
    Bool.and_self]

/-- the keywords `viaDef`/`viaDataP` dispatch on -/
theorem wViaFixed_key (r : Option Dec) (ls : List ViaLayer) (T : List Tok) :
    ∃ k, peekKey (wViaData (.fixed r ls) ++ kw "End" :: T) = some k ∧ k ≠ "ViaRule" ∧ k ≠ "Default" ∧
      (k = "Resistance" ↔ r.isSome = true) := by
  have hne : ∀ {k : String}, k = "Resistance" ∨ k = "End" ∨ k = "Layer" → k ≠ "ViaRule" ∧ k ≠ "Default" := by
    rintro k (rfl | rfl | rfl) <;> simp only [ne_eq, String.reduceEq, not_false_eq_true, and_self]
  cases r with
  | some d => exact ⟨"Resistance", peekKey_kw _ _ (by simp only [lef]), (hne (.inl rfl)).1, (hne (.inl rfl)).2, by simp⟩
  | none =>
    cases ls with
    | nil => exact ⟨"End", peekKey_kw _ _ (by simp only [lef]), (hne (.inr (.inl rfl))).1, (hne (.inr (.inl rfl))).2, by simp⟩
    | cons a b => exact ⟨"Layer", peekKey_kw _ _ (by simp only [lef]), (hne (.inr (.inr rfl))).1, (hne (.inr (.inr rfl))).2, by simp⟩

theorem viaDataP_w (d : ViaData) (T : List Tok) (h : viaDataOk d = true) :
    viaDataP (wViaData d ++ kw "End" :: T) = some (d, kw "End" :: T) := by
  cases d with
  | generated g =>
    have hb := c04_genvia_any_order T (canonGStmts g) { rule := g.rule } ((wGenBody g ++ kw "End" :: T).length + 1) (by
      have := flatMap_len_le wGStmt wGStmt_length (canonGStmts g)
      rw [List.length_append, wGenBody_is_rendering]; omega) (canonG_ok g h)
    rw [← wGenBody_is_rendering, canonG_renders] at hb
    simp only [wViaData, List.cons_append]
    rw [viaDataP]
    simp only [lef, beq_self_eq_true, ↓reduceIte, List.tail_cons, Option.bind_eq_bind, hb, Option.pure_def]
  | fixed r ls =>
    replace h := viaDataOk_fixed.1 h
    obtain ⟨k, hk, hv, _, hr⟩ := wViaFixed_key r ls T
    have hl := viaLayers_w T ls [] _ (flatMap_fuel wViaLayer (fun a => by simp [wViaLayer]) ls (kw "End" :: T)) h.2
    rw [viaDataP]
    simp only [hk, Option.bind_eq_bind, bind_some_eq, beq_iff_eq, hv, ↓reduceIte]
    cases r with
    | none =>
      have : k ≠ "Resistance" := fun e => by simpa using hr.1 e
      simp only [this, ↓reduceIte, bind_some_eq, wViaData, opt, List.nil_append, hl, Option.pure_def]
    | some d =>
      obtain rfl : k = "Resistance" := hr.2 rfl
      have hd : decOk d = true := h.1
      simp only [↓reduceIte, wViaData, opt, List.cons_append, List.nil_append, List.tail_cons, lef, hd,
        Option.map_some, hl, Option.pure_def]

attribute [local congr] bind_congr_arg in
theorem viaDef_w (v : ViaDef) (T : List Tok) (h : viaOk v = true) : viaDef (wViaToks v ++ T) = some (v, T) := by
  obtain ⟨n, isDef, d⟩ := v
  have hd := viaDataP_w d (ident n :: T) h
  have hk : ∃ k, peekKey (wViaData d ++ kw "End" :: ident n :: T) = some k ∧ k ≠ "Default" := by
    cases d with
    | generated g => exact ⟨_, peekKey_kw _ _ (by simp only [lef]), by simp only [ne_eq, String.reduceEq, not_false_eq_true]⟩
    | fixed r ls => obtain ⟨k, hk, _, hd, _⟩ := wViaFixed_key r ls (ident n :: T); exact ⟨k, hk, hd⟩
  obtain ⟨k, hk, hkd⟩ := hk
  cases isDef with
  | true =>
    simp only [wViaToks, ↓reduceIte, List.cons_append, List.append_assoc, List.nil_append]
    rw [viaDef]
    simp only [lef, ↓reduceIte, Option.bind_eq_bind, beq_self_eq_true, List.tail_cons, hd, Option.pure_def]
  | false =>
    simp only [wViaToks, Bool.false_eq_true, ↓reduceIte, List.cons_append, List.append_assoc, List.nil_append]
    rw [viaDef]
    simp only [lef, ↓reduceIte, Option.bind_eq_bind, hk, beq_iff_eq, hkd, hd, List.tail_cons, Option.pure_def]

/-! non-vacuity -/
example : site (kw "Site" :: ident ['s'] :: ([SStmt.size (⟨1, 0⟩, ⟨2, 0⟩), .cls "Core"].flatMap wSStmt ++ kw "End" :: ident ['s'] :: [])) =
    some (⟨['s'], "Core", (⟨1, 0⟩, ⟨2, 0⟩), none⟩, []) :=
  c04_site_any_order _ _ _ (by decide +kernel) _ _ _ rfl

end L21.Lef
