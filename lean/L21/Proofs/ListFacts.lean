/-
Facts about core `List` / `Option` / `Nat` functions that core lacks; no model, no import.
The models write most traversals by hand into result types of their own: `traverse_iff` reads such a traversal as
`l.map f = r.map c` (`c` the success constructor).  `loop_flatMap` / `loop_stop`: the induction behind the fuel-indexed
reader loops, run on the concatenated encodings of a list.
-/
namespace L21
variable {α β γ ι κ σ ρ τ ο : Type}

theorem traverse_iff {F : List α → ρ} {f : α → ο} {c : β → ο} {C : List β → ρ}
    (nil : ∀ bs, F [] = C bs ↔ bs = [])
    (cons : ∀ a r bs, F (a :: r) = C bs ↔ ∃ b more, f a = c b ∧ F r = C more ∧ bs = b :: more) :
    ∀ {l : List α} {bs : List β}, F l = C bs ↔ l.map f = bs.map c
  | [], bs => by rw [nil]; cases bs <;> simp
  | a :: r, [] => by rw [cons]; simp
  | a :: r, b :: more => by
    rw [cons, List.map_cons, List.map_cons, List.cons.injEq, ← traverse_iff nil cons]
    exact ⟨fun ⟨_, _, h1, h2, e⟩ => by cases e; exact ⟨h1, h2⟩, fun ⟨h1, h2⟩ => ⟨b, more, h1, h2, rfl⟩⟩

theorem mapM_eq_some_iff {f : α → Option β} {l : List α} {r : List β} : l.mapM f = some r ↔ l.map f = r.map some :=
  traverse_iff (F := List.mapM f) (fun _ => by simp [eq_comm]) fun a r bs => by
    simp [Option.bind_eq_some_iff, @eq_comm _ bs]

theorem mem_of_map_eq_map {f : α → γ} {c : β → γ} {l : List α} {r : List β} (h : l.map f = r.map c) {y : β} (hy : y ∈ r) :
    ∃ x ∈ l, f x = c y :=
  List.mem_map.1 (h ▸ List.mem_map_of_mem hy)

theorem result_of_map_eq_map {f : α → γ} {c : β → γ} {l : List α} {r : List β} (h : l.map f = r.map c) {x : α} (hx : x ∈ l) :
    ∃ y ∈ r, f x = c y :=
  let ⟨y, hy, e⟩ := List.mem_map.1 (h ▸ List.mem_map_of_mem hx); ⟨y, hy, e.symm⟩

theorem length_eq_of_map_eq_map {f : α → γ} {c : β → γ} {l : List α} {r : List β} (h : l.map f = r.map c) :
    l.length = r.length := by
  simpa using congrArg List.length h

theorem mapM_some_mem {f : α → Option β} {l : List α} {r : List β} (h : l.mapM f = some r) :
    ∀ y ∈ r, ∃ x ∈ l, f x = some y := fun _ => mem_of_map_eq_map (mapM_eq_some_iff.1 h)

theorem mapM_map_some (g : α → β) (h : β → Option γ) (k : α → γ) (l : List α)
    (hh : ∀ a ∈ l, h (g a) = some (k a)) : (l.map g).mapM h = some (l.map k) := by
  rw [mapM_eq_some_iff, List.map_map, List.map_map]; exact List.map_congr_left hh

theorem mapM_none_of_mem (f : α → Option β) {a : α} (ha : f a = none) (l : List α) (h : a ∈ l) :
    l.mapM f = none :=
  Option.eq_none_iff_forall_ne_some.2 fun r hr => by
    obtain ⟨b, _, hb⟩ := result_of_map_eq_map (mapM_eq_some_iff.1 hr) h; rw [ha] at hb; cases hb

/-- two lists `as`, `bs` read off one index list `is` (through `A`/`wa`, `B`/`wb`) agree under `f`/`g` if they do index by index -/
theorem map_eq_map_of_rel {α' β' : Type} {A : ι → α'} {B : ι → β'} {wa : α → α'} {wb : β → β'} {f : α → γ} {g : β → γ}
    (h : ∀ i a b, A i = wa a → B i = wb b → f a = g b) :
    ∀ (is : List ι) {as : List α} {bs : List β}, is.map A = as.map wa → is.map B = bs.map wb → as.map f = bs.map g
  | [], _, _, ha, hb => by rw [List.map_eq_nil_iff.1 ha.symm, List.map_eq_nil_iff.1 hb.symm]; rfl
  | i :: is, _, _, ha, hb => by
    obtain ⟨a, as, rfl, ha1, ha2⟩ := List.map_eq_cons_iff.1 ha.symm
    obtain ⟨b, bs, rfl, hb1, hb2⟩ := List.map_eq_cons_iff.1 hb.symm
    rw [List.map_cons, List.map_cons, h i a b ha1.symm hb1.symm, map_eq_map_of_rel h is ha2.symm hb2.symm]

/-- a second traversal `G` of the same list succeeds wherever `F` did, with `k` of its results -/
theorem map_some_congr {F : ι → Option α} {G : ι → Option β} {k : α → β} :
    ∀ (l : List ι) {xs : List α}, (∀ r ∈ l, ∀ x, F r = some x → G r = some (k x)) → l.map F = xs.map some →
      l.map G = (xs.map k).map some
  | [], _, _, h => by rw [List.map_eq_nil_iff.1 h.symm]; rfl
  | r :: l, _, hk, h => by
    obtain ⟨x, xs, rfl, hx, hxs⟩ := List.map_eq_cons_iff.1 h.symm
    rw [List.map_cons, hk r List.mem_cons_self x hx.symm, map_some_congr l (fun r hr => hk r (List.mem_cons_of_mem _ hr)) hxs.symm]
    rfl

theorem mem_of_mem_listed {tbl : List α} {order : List Nat} {c : α} (h : c ∈ order.filterMap (fun i => tbl[i]?)) : c ∈ tbl := by
  obtain ⟨i, _, hi⟩ := List.mem_filterMap.1 h
  exact List.mem_of_getElem? hi

theorem listed_map (k : α → γ) (tbl : List α) (order : List Nat) :
    (order.filterMap (fun i => tbl[i]?)).map k = order.filterMap (fun i => (tbl.map k)[i]?) := by
  simp only [List.map_filterMap, List.getElem?_map]

theorem nodup_listed (key : α → κ) (tbl : List α) (hk : (tbl.map key).Nodup) (order : List Nat) (ho : order.Nodup) :
    ((order.filterMap (fun i => tbl[i]?)).map key).Nodup := by
  rw [listed_map]
  exact List.Pairwise.filterMap _ (fun i j hij a ha b hb e =>
    hij ((List.getElem?_inj (List.getElem?_eq_some_iff.1 ha).1 hk).1 (by rw [ha, hb, e]))) ho

theorem listed_rel (f : α → γ) (g : β → γ) {as : List α} {bs : List β} (h : as.map f = bs.map g) (order : List Nat) :
    (order.filterMap (fun i => as[i]?)).map f = (order.filterMap (fun i => bs[i]?)).map g := by
  rw [listed_map, listed_map, h]

theorem listed_deps_before (tbl : List α) {adj : Nat → List Nat} {order : List Nat}
    (hdeps : ∀ l1 x l2, order = l1 ++ x :: l2 → ∀ d ∈ adj x, d ∈ l1) {l1 l2 : List α} {c : α}
    (h : order.filterMap (fun i => tbl[i]?) = l1 ++ c :: l2) :
    ∃ x, tbl[x]? = some c ∧ ∀ d ∈ adj x, ∀ cd, tbl[d]? = some cd → cd ∈ l1 := by
  obtain ⟨m1, m2, rfl, rfl, h2⟩ := List.filterMap_eq_append_iff.1 h
  obtain ⟨n1, x, n2, rfl, hn1, hx, _⟩ := List.filterMap_eq_cons_iff.1 h2
  refine ⟨x, hx, fun d hd cd hcd => ?_⟩
  rcases List.mem_append.1 (hdeps (m1 ++ n1) x n2 (by simp) d hd) with hm | hn
  · exact List.mem_filterMap.2 ⟨d, hm, hcd⟩
  · rw [hn1 d hn] at hcd; cases hcd

theorem range_filterMap_getElem : ∀ (l : List α), (List.range l.length).filterMap (fun i => l[i]?) = l
  | [] => rfl
  | a :: r => by
    rw [List.length_cons, List.range_succ_eq_map, List.filterMap_cons]
    simp only [List.getElem?_cons_zero, List.filterMap_map]
    simpa [Function.comp_def] using range_filterMap_getElem r

theorem eq_of_nodup_key (key : α → κ) {m : List α} (hk : (m.map key).Nodup) {a b : α}
    (ha : a ∈ m) (hb : b ∈ m) (h : key a = key b) : a = b :=
  have hp : m.Pairwise (fun a b => key a ≠ key b) := List.pairwise_map.1 hk
  List.Pairwise.forall_of_forall_of_flip (R := fun a b => key a = key b → a = b) (fun _ _ _ => rfl)
    (hp.imp fun hne h => absurd h hne) (hp.imp fun hne h => absurd h.symm hne) ha hb h

theorem lookup_mem [BEq κ] [LawfulBEq κ] {l : List (κ × β)} {k : κ} {t : β} (h : l.lookup k = some t) : (k, t) ∈ l := by
  obtain ⟨l₁, l₂, rfl, _⟩ := List.lookup_eq_some_iff.1 h
  exact List.mem_append_right _ List.mem_cons_self

theorem length_flatMap_const {w : α → List τ} {k : Nat} : ∀ {l : List α}, (∀ a ∈ l, (w a).length = k) →
    (l.flatMap w).length = k * l.length
  | [], _ => rfl
  | a :: r, h => by
    rw [List.flatMap_cons, List.length_append, h a List.mem_cons_self,
      length_flatMap_const fun b hb => h b (List.mem_cons_of_mem _ hb), List.length_cons, Nat.mul_succ, Nat.add_comm]

theorem length_lt_append {l T : List τ} (h : 1 ≤ l.length) : T.length < (l ++ T).length := by
  rw [List.length_append]; omega

theorem flatMap_len_le (w : α → List τ) (h : ∀ a, 1 ≤ (w a).length) : ∀ (l : List α), l.length ≤ (l.flatMap w).length
  | [] => Nat.le_refl _
  | a :: r => by
    rw [List.flatMap_cons, List.length_append, List.length_cons]; have := h a; have := flatMap_len_le w h r; omega

/-- the budget a reader starts with covers one unit per element -/
theorem flatMap_fuel (w : α → List τ) (h : ∀ a, 1 ≤ (w a).length) (l : List α) (T : List τ) :
    l.length + 1 ≤ (l.flatMap w ++ T).length + 1 := by
  have := flatMap_len_le w h l; rw [List.length_append]; omega

/-- `F := id`: an accumulator list; `F l := { s with field := l }`: a list-valued field of the state. -/
theorem foldl_collect (upd : σ → α → σ) (F : List α → σ) :
    ∀ (xs : List α), (∀ acc, ∀ x ∈ xs, upd (F acc) x = F (acc ++ [x])) → ∀ acc, xs.foldl upd (F acc) = F (acc ++ xs)
  | [], _, acc => by rw [List.foldl_nil, List.append_nil]
  | x :: r, h, acc => by
    rw [List.foldl_cons, h acc x List.mem_cons_self, foldl_collect upd F r fun a y hy => h a y (List.mem_cons_of_mem _ hy),
      List.append_assoc, List.singleton_append]

theorem foldl_snoc (xs acc : List α) : xs.foldl (fun a x => a ++ [x]) acc = acc ++ xs :=
  foldl_collect _ id xs (fun _ _ _ => rfl) acc

theorem filter_map_comm {q : α → Bool} {f : α → α} (hq : ∀ t, q (f t) = q t) (l : List α) :
    (l.map f).filter q = (l.filter q).map f := by
  rw [List.filter_map]
  exact congrArg (List.map f) (List.filter_congr fun t _ => hq t)

theorem filterMap_const_none (l : List α) : l.filterMap (fun _ => (none : Option β)) = [] :=
  List.filterMap_eq_nil_iff.2 fun _ _ => rfl

theorem filterMap_some_eq (g : α → α) (h : ∀ a, g a = a) (l : List α) : l.filterMap (fun a => some (g a)) = l := by
  rw [show (fun a => some (g a)) = some from funext fun a => congrArg some (h a)]; exact List.filterMap_some

theorem perm_short_eq {l l' : List α} (h : l.Perm l') (hl : l.length ≤ 1) : l = l' :=
  match l, hl with
  | [], _ => h.nil_eq
  | [_], _ => (List.perm_singleton.1 h.symm).symm

/-- a budget-indexed function that does not change from `f` to `f + 1` above `m` has the value of `m + 1` everywhere above `m` -/
theorem const_above (F : Nat → α) (m : Nat) (h : ∀ f, m < f → F f = F (f + 1)) {f : Nat} (hf : m < f) : F f = F (m + 1) := by
  obtain ⟨n, rfl⟩ : ∃ n, f = m + 1 + n := ⟨f - (m + 1), by omega⟩
  induction n with
  | zero => rfl
  | succ n ih => rw [← ih (by omega), ← Nat.add_assoc, ← h _ (by omega)]

/-- One unit of fuel per element.  `P`: what a step needs of its continuation (e.g. that it starts with a stop keyword
    or with another element). -/
theorem loop_flatMap {body : Nat → σ → List τ → ρ} {w : α → List τ} {upd : σ → α → σ} {ok : α → Bool} {P : List τ → Prop}
    (step : ∀ f s x T, ok x = true → P T → body (f + 1) s (w x ++ T) = body f (upd s x) T) (hP : ∀ x T, P (w x ++ T)) :
    ∀ (xs : List α) (s : σ) (f : Nat) (T : List τ), xs.all ok = true → P T →
      body (f + xs.length) s (xs.flatMap w ++ T) = body f (xs.foldl upd s) T := by
  intro xs
  induction xs with
  | nil => intro s f T _ _; rfl
  | cons x r ih =>
    intro s f T hok hT
    rw [List.all_cons, Bool.and_eq_true] at hok
    have hP' : P (r.flatMap w ++ T) := by
      cases r with
      | nil => exact hT
      | cons y r' => rw [List.flatMap_cons, List.append_assoc]; exact hP y _
    rw [List.flatMap_cons, List.append_assoc, List.length_cons, ← Nat.add_assoc, step _ _ _ _ hok.1 hP', ih _ _ _ hok.2 hT,
      List.foldl_cons]

/-- The fuel a reader gives, the length of its input plus one, is enough when every `w x` is non-empty (`flatMap_len_le`). -/
theorem loop_stop {body : Nat → σ → List τ → ρ} {w : α → List τ} {upd : σ → α → σ} {ok : α → Bool} {P : List τ → Prop}
    (step : ∀ f s x T, ok x = true → P T → body (f + 1) s (w x ++ T) = body f (upd s x) T) (hP : ∀ x T, P (w x ++ T))
    (T : List τ) (R : σ → ρ) (hT : P T) (stop : ∀ f s, body (f + 1) s T = R s)
    (xs : List α) (s : σ) {F : Nat} (hF : xs.length + 1 ≤ F) (hok : xs.all ok = true) :
    body F s (xs.flatMap w ++ T) = R (xs.foldl upd s) := by
  obtain ⟨g, rfl⟩ : ∃ g, F = g + 1 + xs.length := ⟨F - 1 - xs.length, by omega⟩
  rw [loop_flatMap step hP xs s _ T hok hT, stop]

theorem loop_stop_any {body : Nat → σ → List τ → ρ} {w : α → List τ} {upd : σ → α → σ} {ok : α → Bool}
    (step : ∀ f s x T, ok x = true → body (f + 1) s (w x ++ T) = body f (upd s x) T)
    (T : List τ) (R : σ → ρ) (stop : ∀ f s, body (f + 1) s T = R s)
    (xs : List α) (s : σ) {F : Nat} (hF : xs.length + 1 ≤ F) (hok : xs.all ok = true) :
    body F s (xs.flatMap w ++ T) = R (xs.foldl upd s) :=
  loop_stop (P := fun _ => True) (fun f s x T h _ => step f s x T h) (fun _ _ => trivial) T R trivial stop xs s hF hok

theorem loop_stop_unit {body : Nat → List τ → ρ} {w : α → List τ} (step : ∀ f x T, body (f + 1) (w x ++ T) = body f T)
    (T : List τ) (R : ρ) (stop : ∀ f, body (f + 1) T = R) (xs : List α) {F : Nat} (hF : xs.length + 1 ≤ F) :
    body F (xs.flatMap w ++ T) = R :=
  loop_stop_any (body := fun f (_ : Unit) l => body f l) (upd := fun s _ => s) (ok := fun _ => true)
    (fun f _ x T _ => step f x T) T (fun _ => R) (fun f _ => stop f) xs () hF (List.all_eq_true.2 fun _ _ => rfl)

theorem mem_splice {pre mid post : List α} {s : α} :
    (∀ x ∈ pre ++ s :: post, x ≠ s → x ∈ pre ++ (mid ++ post)) ∧
    ∀ x ∈ pre ++ (mid ++ post), x ∈ pre ++ s :: post ∨ x ∈ mid := by
  simp only [List.mem_append, List.mem_cons]
  exact ⟨fun x h hne => h.imp_right fun h => h.elim (absurd · hne) .inr,
    fun x h => h.elim (.inl ∘ .inl) fun h => h.elim .inr (.inl ∘ .inr ∘ .inr)⟩

theorem foldlM_inv {f : β → α → Option β} (I : β → Prop) {l : List α} {init r : β}
    (step : ∀ acc, ∀ x ∈ l, ∀ acc', f acc x = some acc' → I acc → I acc') (h : l.foldlM f init = some r) (hi : I init) :
    I r := by
  induction l generalizing init with
  | nil => exact Option.some.inj h ▸ hi
  | cons a t ih =>
    rw [List.foldlM_cons] at h
    obtain ⟨b, hb, h⟩ := Option.bind_eq_some_iff.1 h
    exact ih (fun acc x hx => step acc x (List.mem_cons_of_mem _ hx)) h (step init a List.mem_cons_self b hb hi)

theorem foldlM_made_kept {f : β → α → Option β} (P : α → β → Prop)
    (made : ∀ acc x acc', f acc x = some acc' → P x acc')
    (kept : ∀ y acc x acc', f acc x = some acc' → P y acc → P y acc')
    {l : List α} {init r : β} (h : l.foldlM f init = some r) : ∀ x ∈ l, P x r := by
  induction l generalizing init with
  | nil => exact fun _ hx => absurd hx List.not_mem_nil
  | cons a t ih =>
    rw [List.foldlM_cons] at h
    obtain ⟨b, hb, h'⟩ := Option.bind_eq_some_iff.1 h
    intro x hx
    rcases List.mem_cons.1 hx with rfl | hx
    · exact foldlM_inv (P x) (fun acc y _ acc' => kept x acc y acc') h' (made init x b hb)
    · exact ih h' x hx

/-- `f` collects the outputs of the partial step `step` and stops at the first refusal (the `?` in the Rust code); what
    a step establishes of its own output (`Q`) still holds in the final state, states growing along `le`. -/
theorem history_spec {step : σ → α → Option (σ × β)} {f : σ → List α → Option (σ × List β)}
    (hnil : ∀ s, f s [] = some (s, []))
    (hcons : ∀ s a rest, f s (a :: rest) = (step s a).bind fun (s1, b) => (f s1 rest).map fun (s2, out) => (s2, b :: out))
    {Inv : σ → Prop} {le : σ → σ → Prop} {Q : σ → α → β → Prop} (refl : ∀ s, le s s) (trans : ∀ {a b c}, le a b → le b c → le a c)
    (mono : ∀ {s s' a b}, le s s' → Q s a b → Q s' a b)
    (hstep : ∀ {s a s' b}, Inv s → step s a = some (s', b) → Inv s' ∧ le s s' ∧ Q s' a b) :
    ∀ {as : List α} {s s' : σ} {out : List β}, Inv s → f s as = some (s', out) →
      Inv s' ∧ le s s' ∧ out.length = as.length ∧ ∀ i (hi : i < as.length) (ho : i < out.length), Q s' as[i] out[i]
  | [], s, s', out, h, hg => by rw [hnil] at hg; cases hg; exact ⟨h, refl _, rfl, nofun⟩
  | a :: rest, s, s', out, h, hg => by
    simp only [hcons, Option.bind_eq_some_iff, Option.map_eq_some_iff] at hg
    obtain ⟨⟨s1, b⟩, h1, ⟨s2, o2⟩, h2, e⟩ := hg
    cases e
    obtain ⟨hi1, hle1, hq1⟩ := hstep h h1
    obtain ⟨hi2, hle2, hlen, hrest⟩ := history_spec hnil hcons (Q := Q) refl trans mono hstep hi1 h2
    refine ⟨hi2, trans hle1 hle2, by simp [hlen], fun i hi ho => ?_⟩
    cases i with
    | zero => exact mono hle2 hq1
    | succ j => exact hrest j (by simpa using hi) (by simpa using ho)

end L21
