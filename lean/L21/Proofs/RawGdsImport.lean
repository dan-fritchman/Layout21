import L21.Model.RawGds
/-
`GdsImporter::import` read once at each level, for C06 (import) and C07 (export, then import): an element, the first
pass over a structure, the label rule, the library and its resolution of references by name.
-/
namespace L21.RawGds
open L21.Geom L21.Gds

/-- what one element contributes on its own (to an empty `Pass1`): placements, shapes, labels -/
def contrib (known : List Bytes) (e : Gds.Elem) : Out Pass1 := importElem known {} e

/-- `contrib known e = .ok c`, element kind by element kind; every other element is an error -/
inductive Contributes (known : List Bytes) : Gds.Elem → Pass1 → Prop
  | boundary {layer dt xy cm p0 rest} : pairUp xy = p0 :: rest → (p0 :: rest).getLast? = some p0 →
      Contributes known (.boundary layer dt xy cm) ⟨[], [⟨none, layer, dt, boundaryShape (pairUp xy).dropLast⟩], []⟩
  | box {layer bt xy cm a b c d e} : pairUp xy = [a, b, c, d, e] →
      Contributes known (.box layer bt xy cm) ⟨[], [⟨none, layer, bt, .rect a c⟩], []⟩
  | path {layer dt xy v pt be ee cm} : 0 ≤ v →
      Contributes known (.path layer dt xy (some v) pt be ee cm) ⟨[], [⟨none, layer, dt, .path (pairUp xy) v.toNat⟩], []⟩
  | sref {name xy st cm loc refl ang} : name ∈ known → pairUp xy = [loc] → importStrans st false = .ok (refl, ang) →
      Contributes known (.sref name xy st cm) ⟨[⟨[], name, loc, refl, ang⟩], [], []⟩
  | aref {name xy cols rows st cm p0 p1 p2 refl ang} : name ∈ known → pairUp xy = [p0, p1, p2] →
      ¬ (cols ≤ 0 ∨ rows ≤ 0) →
      ¬ (Int.tmod (p1.x - p0.x) cols ≠ 0 ∨ Int.tmod (p1.y - p0.y) cols ≠ 0 ∨ Int.tmod (p2.x - p0.x) rows ≠ 0 ∨
        Int.tmod (p2.y - p0.y) rows ≠ 0) → importStrans st true = .ok (refl, ang) →
      Contributes known (.aref name xy cols rows st cm)
        ⟨arrayInsts name p0 cols rows (Int.tdiv (p1.x - p0.x) cols) (Int.tdiv (p1.y - p0.y) cols)
          (Int.tdiv (p2.x - p0.x) rows) (Int.tdiv (p2.y - p0.y) rows) refl ang, [], []⟩
  | text {s layer tt xy pres pt w st cm loc} : pairUp xy = [loc] →
      Contributes known (.text s layer tt xy pres pt w st cm) ⟨[], [], [(s, layer, loc)]⟩
  | node {layer nt xy cm} : Contributes known (.node layer nt xy cm) {}

/-- `x` is a shape of `layer` containing `q`: the label rule's test -/
def hits (layer : Int) (q : Pt) (x : Elem) : Bool := x.layer == layer && shapeContains x.shape q

/-- `importLib`'s local `lastIdx` and `adj`: a reference resolves to the last structure of its name -/
def lastIdx (ss : List Gds.Struct) (n : Bytes) : Nat := ss.length - 1 - structIndex ss.reverse n
def structAdj (ss : List Gds.Struct) (i : Nat) : List Nat :=
  match ss[i]? with
  | some s => s.elems.flatMap (fun e => (refsOf e).map (lastIdx ss))
  | none => []

theorem importElem_ok_iff {known : List Bytes} {acc r : Pass1} {e : Gds.Elem} : importElem known acc e = .ok r ↔
    ∃ c, Contributes known e c ∧ r = ⟨acc.insts ++ c.insts, acc.elems ++ c.elems, acc.texts ++ c.texts⟩ := by
  constructor
  · -- the paths of `importElem` in source order (`#check @importElem.fun_cases_unfolding`); all but these seven are `.err`
    fun_cases importElem known acc e
    case case2 hl h0 hne =>
      rintro ⟨⟩; exact ⟨_, .boundary h0 (by rw [← h0, hl, Decidable.not_not.1 hne]), by simp only [List.append_nil]; rfl⟩
    case case6 hw => rintro ⟨⟩; exact ⟨_, .path (Int.not_lt.1 hw), by simp only [List.append_nil]⟩
    case case7 h1 => rintro ⟨⟩; exact ⟨_, .box h1, by simp only [List.append_nil]⟩
    case case10 hk _ _ _ h2 h1 => rintro ⟨⟩; exact ⟨_, .sref (by simpa using hk) h1 h2, by simp only [List.append_nil]⟩
    case case15 hk _ _ _ h1 hcr _ _ _ _ e hmod _ _ h2 =>
      rintro ⟨⟩; cases e; exact ⟨_, .aref (by simpa using hk) h1 hcr hmod h2, by simp only [List.append_nil]⟩
    case case18 h1 => rintro ⟨⟩; exact ⟨_, .text h1, by simp only [List.append_nil]⟩
    case case20 => rintro ⟨⟩; exact ⟨_, .node, by simp only [List.append_nil]⟩
    all_goals nofun
  · rintro ⟨c, hc, rfl⟩
    cases hc <;> simp [importElem, *]

theorem contrib_ok_iff {known : List Bytes} {e : Gds.Elem} {c : Pass1} : contrib known e = .ok c ↔ Contributes known e c :=
  importElem_ok_iff.trans ⟨fun ⟨_, h, e⟩ => e ▸ h, fun h => ⟨c, h, rfl⟩⟩

theorem importElem_err {known : List Bytes} {acc : Pass1} {e : Gds.Elem} (h : ∀ c, ¬ Contributes known e c) :
    importElem known acc e = .err := by
  cases h' : importElem known acc e with
  | err => rfl
  | ok r => obtain ⟨c, hc, _⟩ := importElem_ok_iff.1 h'; exact absurd hc (h c)

/-- nothing is dropped or reordered: the first pass over a structure succeeds only when every element is importable, and
    the cell's placements, shapes and labels are then the concatenation, in element order, of what each contributes -/
theorem c06_struct_pass1 (known : List Bytes) : ∀ (es : List Gds.Elem) (acc r : Pass1),
    importElemsP1 known acc es = .ok r →
    ∃ cs : List Pass1, es.map (contrib known) = cs.map Gds.Out.ok ∧
      r.insts = acc.insts ++ cs.flatMap (·.insts) ∧ r.elems = acc.elems ++ cs.flatMap (·.elems) ∧
      r.texts = acc.texts ++ cs.flatMap (·.texts) := by
  intro es
  induction es with
  | nil => intro acc r h; cases h; exact ⟨[], rfl, by simp, by simp, by simp⟩
  | cons e rest ih =>
    intro acc r h
    rw [importElemsP1] at h
    cases ha : importElem known acc e with
    | err => rw [ha] at h; cases h
    | ok a =>
      rw [ha] at h
      obtain ⟨c, hc, rfl⟩ := importElem_ok_iff.1 ha
      obtain ⟨cs, hf, h1, h2, h3⟩ := ih _ _ h
      exact ⟨c :: cs, by simp [contrib_ok_iff.2 hc, hf], by simp [h1], by simp [h2], by simp [h3]⟩

theorem applyText_eq (elems : List Elem) (annots : List (Bytes × Pt)) (s : Bytes) (layer : Int) (loc : Pt) :
    applyText elems annots (s, layer, loc) =
      if elems.any (hits layer loc) then
        (elems.map fun e => if hits layer loc e && e.net.isNone then { e with net := some (lowerAscii s) } else e, annots)
      else (elems, annots ++ [(s, loc)]) := rfl

/-- a label never changes a shape's layer, purpose or geometry, and never removes or adds a shape -/
theorem c06_label_keeps_shapes (elems : List Elem) (annots : List (Bytes × Pt)) (t : Bytes × Int × Pt) :
    (applyText elems annots t).1.map (fun e => (e.layer, e.purpose, e.shape)) = elems.map (fun e => (e.layer, e.purpose, e.shape)) := by
  obtain ⟨s, layer, loc⟩ := t
  rw [applyText_eq]
  split
  · rw [List.map_map]
    exact List.map_congr_left fun e _ => by simp only [Function.comp]; split <;> rfl
  · rfl

theorem importStruct_ok {known : List Bytes} {s : Gds.Struct} {cell : Cell} (h : importStruct known s = .ok cell) :
    ∃ p1, importElemsP1 known {} s.elems = .ok p1 ∧
      cell = ⟨s.name, p1.insts, (p1.texts.foldl (fun acc t => applyText acc.1 acc.2 t) (p1.elems, [])).1,
        (p1.texts.foldl (fun acc t => applyText acc.1 acc.2 t) (p1.elems, [])).2⟩ := by
  unfold importStruct at h
  split at h
  · cases h
  · cases h; exact ⟨_, ‹_›, rfl⟩

theorem importStructs_cons_ok {known : List Bytes} {s : Gds.Struct} {rest : List Gds.Struct} {cs : List Cell}
    (hk : known.contains s.name = false) : importStructs known (s :: rest) = .ok cs ↔
      ∃ c more, importStruct known s = .ok c ∧ importStructs (s.name :: known) rest = .ok more ∧ cs = c :: more := by
  simp only [importStructs, hk, Bool.false_eq_true, if_false]
  cases importStruct known s with
  | err => simp
  | ok c => cases importStructs (s.name :: known) rest <;> simp [eq_comm]

theorem importLib_ok_iff {g : Gds.Library} {lib : Lib} : importLib g = .ok lib ↔
    ∃ u order cs, importUnits g.units.2 = some u ∧
      g.structs.any (fun s => s.elems.any (fun e => (refsOf e).any (fun n => !(g.structs.map (·.name)).contains n))) = false ∧
      Dep.order (structAdj g.structs) (g.structs.length + 1) (List.range g.structs.length) = .ok order ∧
      importStructs [] (order.filterMap (fun i => g.structs[i]?)) = .ok cs ∧ lib = ⟨g.name, u, cs⟩ := by
  constructor
  · fun_cases importLib g
    case case3 hu _ _ hd _ _ ho _ hc => rintro ⟨⟩; exact ⟨_, _, _, hu, Bool.eq_false_iff.2 hd, ho, hc, rfl⟩
    all_goals nofun
  · rintro ⟨u, order, cs, hu, hd, ho, hc, rfl⟩
    rw [importLib, hu]
    simp only [hd, Bool.false_eq_true, if_false]
    erw [ho]  -- `structAdj g.structs` is `importLib`'s local `adj` unfolded
    simp only [hc]

theorem lastIdx_spec {ss : List Gds.Struct} {n : Bytes} (h : n ∈ ss.map (·.name)) :
    ∃ s, ss[lastIdx ss n]? = some s ∧ s.name = n := by
  obtain ⟨s, hs, hn⟩ := List.mem_map.1 h
  have hlt : ss.reverse.findIdx (fun s => s.name == n) < ss.reverse.length :=
    List.findIdx_lt_length.2 ⟨s, List.mem_reverse.2 hs, by simp [hn]⟩
  have hp := List.findIdx_getElem (w := hlt)
  rw [List.getElem_reverse] at hp
  refine ⟨_, ?_, by simpa using hp⟩
  rw [lastIdx, structIndex, ← List.findIdx_eq_getD_findIdx?]
  exact List.getElem?_eq_getElem _

theorem mem_structAdj {ss : List Gds.Struct} {x : Nat} {s : Gds.Struct} (hs : ss[x]? = some s) {n : Bytes}
    (hn : n ∈ s.elems.flatMap refsOf) : lastIdx ss n ∈ structAdj ss x := by
  simp only [structAdj, hs, List.mem_flatMap, List.mem_map]
  simp only [List.mem_flatMap] at hn
  obtain ⟨e, he, hne⟩ := hn
  exact ⟨e, he, n, hne, rfl⟩

end L21.RawGds
