import L21.Proofs.RawGdsRT
import L21.Proofs.ListFacts
/-
C07 — the library level: what the exported structures reference, the importer's by-name resolution, and the import of
the structures in dependency order.
-/
namespace L21.RawGds
open L21.Geom L21.Gds

theorem exportCells_ok_iff {tbl : LabelTbl} {cs : List Cell} {gs : List Gds.Struct} :
    exportCells tbl cs = .ok gs ↔ cs.map (exportCell tbl) = gs.map .ok :=
  traverse_iff (fun _ => by simp [exportCells, eq_comm]) fun c r gs => by
    rw [exportCells]; cases exportCell tbl c <;> cases exportCells tbl r <;> simp [eq_comm]

theorem exportLib_ok_iff {tbl : LabelTbl} {l : Lib} {g : Gds.Library} : exportLib tbl l = .ok g ↔
    ∃ ss, l.cells.map (exportCell tbl) = ss.map .ok ∧ g = ⟨l.name, 3, zeroDates, unitBits l.units, ss⟩ := by
  simp only [exportLib, ← exportCells_ok_iff]
  cases exportCells tbl l.cells <;> simp [eq_comm]

theorem exported_at {tbl : LabelTbl} {cs : List Cell} {ss : List Gds.Struct} (h : cs.map (exportCell tbl) = ss.map .ok) (x : Nat) :
    (∀ c, cs[x]? = some c → ∃ s, ss[x]? = some s ∧ exportCell tbl c = .ok s) ∧
    (∀ s, ss[x]? = some s → ∃ c, cs[x]? = some c ∧ exportCell tbl c = .ok s) := by
  have hx : cs[x]?.map (exportCell tbl) = ss[x]?.map .ok := by rw [← List.getElem?_map, ← List.getElem?_map, h]
  cases hc : cs[x]? <;> cases hs : ss[x]? <;> rw [hc, hs] at hx
  · exact ⟨nofun, nofun⟩
  · cases hx
  · cases hx
  · have he := Option.some.inj hx
    exact ⟨fun c e => ⟨_, rfl, Option.some.inj e ▸ he⟩, fun s e => ⟨_, rfl, Option.some.inj e ▸ he⟩⟩

theorem refs_exportInsts : ∀ (is : List Inst) (gs : List Gds.Elem), exportInsts is = .ok gs → gs.flatMap refsOf = is.map (·.cell)
  | [], gs, h => by cases h; rfl
  | i :: r, gs, h => by
    obtain ⟨g, more, h1, h2, rfl⟩ := exportInsts_cons_ok h
    obtain ⟨st, rfl, _⟩ := c07_orientation_roundtrip i g h1
    simp [refsOf, refs_exportInsts r more h2]

theorem refs_exportShape {layer dt : Int} {s : Shape} {g : Gds.Elem} (h : exportShape layer dt s = .ok g) : refsOf g = [] :=
  match s, exportShape_ok_iff.1 h with
  | .rect .., ⟨_, e⟩ | .polygon (_ :: _), ⟨_, e⟩ | .path .., ⟨_, e⟩ => e ▸ rfl

theorem refs_exportElems (tbl : LabelTbl) : ∀ (es : List Elem) (gs : List Gds.Elem), exportElems tbl es = .ok gs → gs.flatMap refsOf = []
  | [], gs, h => by cases h; rfl
  | e :: r, gs, h => by
    obtain ⟨g1, more, h1, h2, rfl⟩ := exportElems_cons_ok h
    obtain ⟨g, h3, ⟨_, rfl⟩ | ⟨n, lp, loc, st, _, _, rfl⟩⟩ := exportElem_ok h1 <;>
      simp only [List.flatMap_append, List.flatMap_cons, List.flatMap_nil, refs_exportShape h3,
        refs_exportElems tbl r more h2, List.append_nil]
    rfl

theorem exportCell_refs {tbl : LabelTbl} {c : Cell} {s : Gds.Struct} (h : exportCell tbl c = .ok s) :
    s.name = c.name ∧ s.elems.flatMap refsOf = c.insts.map (·.cell) := by
  obtain ⟨is, es, h1, h2, rfl⟩ := exportCell_ok h
  exact ⟨rfl, by simp [List.flatMap_append, refs_exportInsts _ _ h1, refs_exportElems tbl _ _ h2]⟩

theorem importStructs_export (tbl : LabelTbl) : ∀ (cs : List Cell) (gs : List Gds.Struct) (known : List Bytes),
    cs.map (exportCell tbl) = gs.map .ok →
    (∀ l1 c l2, cs = l1 ++ c :: l2 → c.name ∉ l1.map (·.name) ∧ c.name ∉ known ∧ sepOk [] c.elems = true ∧
      ∀ i ∈ c.insts, i.cell ∈ l1.map (·.name) ∨ i.cell ∈ known) →
    importStructs known gs = .ok (cs.map finalCell)
  | [], [], _, _, _ => rfl
  | [], _ :: _, _, h, _ | _ :: _, [], _, h, _ => nomatch h
  | c :: rest, s :: gs, known, h, hc => by
    obtain ⟨he, hr⟩ := List.cons.inj h
    obtain ⟨-, hk, hsep, hin⟩ := hc [] c rest rfl
    have hname := (exportCell_refs he).1
    have hcell := c07_cell_roundtrip known tbl c s he hsep fun i hi => by simpa using hin i hi
    have := importStructs_export tbl rest gs (s.name :: known) hr fun l1 c' l2 e => by
      obtain ⟨h1, h2, h3, h4⟩ := hc (c :: l1) c' l2 (by rw [e]; rfl)
      simp only [List.map_cons, List.mem_cons, not_or] at h1 h4 ⊢
      exact ⟨h1.2, ⟨by rw [hname]; exact h1.1, h2⟩, h3, fun i hi => by rw [hname]; rcases h4 i hi with (h | h) | h <;> simp [h]⟩
    exact (importStructs_cons_ok (by simpa [hname] using hk)).2 ⟨_, _, hcell, this, rfl⟩

end L21.RawGds
