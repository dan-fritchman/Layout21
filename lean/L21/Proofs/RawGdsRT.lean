import L21.Proofs.RawGdsImport
/-
C07 — a cell raw → GDSII → raw: what a successful export was made of, one shape / one instance at a time, the
importer's first pass over the exported elements, and the label pass under label separation (`sepOk`).
-/
namespace L21.RawGds
open L21.Geom L21.Gds

/-- the importer's normalisation: a four-point axis-parallel polygon comes back as a rectangle -/
def normShape : Shape → Shape
  | .polygon pts => boundaryShape pts
  | s => s

/-- GDSII has no instance names: an instance comes back with its target, location, reflection and angle -/
def eraseName (i : Inst) : Inst := { i with name := [] }

/-- an element after the importer's first pass, before its label is applied: shape normalised, no net name -/
def stripE (e : Elem) : Elem := ⟨none, e.layer, e.purpose, normShape e.shape⟩

/-- the label the exporter writes for an element, as the importer's first pass records it -/
def labelOf (e : Elem) : List (Bytes × Int × Pt) :=
  match e.net, labelLocation e.shape with
  | some n, .ok q => [(n, e.layer, q)]
  | _, _ => []

/-- an element after the trip: shape normalised, net name lower-cased -/
def finalE (e : Elem) : Elem := ⟨e.net.map lowerAscii, e.layer, e.purpose, normShape e.shape⟩

/-- label separation: each named element's label point lies in its own (normalised) shape and in no other shape of the
    same layer, among the elements before (`done`) and after it -/
def sepOk (done : List Elem) : List Elem → Bool
  | [] => true
  | e :: rest =>
    (match e.net, labelLocation e.shape with
     | some _, .ok q => shapeContains (normShape e.shape) q &&
         (done ++ rest.map stripE).all (fun x => !hits e.layer q x)
     | some _, .err => false
     | none, _ => true) && sepOk (done ++ [finalE e]) rest

/-- the cell that `c07_cell_roundtrip` spells out -/
def finalCell (c : Cell) : Cell := ⟨c.name, c.insts.map eraseName, c.elems.map finalE, []⟩

theorem half_between (a b : Int) : min a b ≤ half (a + b) ∧ half (a + b) ≤ max a b := by
  unfold half
  by_cases h : 0 ≤ a + b
  · rw [Int.tdiv_eq_ediv_of_nonneg h]; omega
  · have hn : a + b = -(-(a + b)) := by omega
    rw [hn, Int.neg_tdiv, Int.tdiv_eq_ediv_of_nonneg (by omega)]; omega

theorem pairUp_flatMap (pts : List Pt) : pairUp (pts.flatMap ptXY) = pts := by
  induction pts with
  | nil => rfl
  | cons p rest ih => simp [List.flatMap_cons, ptXY, pairUp, ih]

theorem pairUp_flatMap_append (pts : List Pt) (p : Pt) : pairUp ((pts ++ [p]).flatMap ptXY) = pts ++ [p] := pairUp_flatMap _

theorem exportShape_ok_iff {layer dt : Int} {s : Shape} {g : Gds.Elem} : exportShape layer dt s = .ok g ↔
    match s with
    | .rect p0 p1 => pointsOk [p0, p1] = true ∧
        g = .boundary layer dt [p0.x, p0.y, p1.x, p0.y, p1.x, p1.y, p0.x, p1.y, p0.x, p0.y] noCommon
    | .polygon [] => False
    | .polygon (p0 :: r) => pointsOk (p0 :: r) = true ∧ g = .boundary layer dt ((p0 :: r ++ [p0]).flatMap ptXY) noCommon
    | .path pts w => (pointsOk pts && decide ((w : Int) ≤ 2147483647)) = true ∧
        g = .path layer dt (pts.flatMap ptXY) (some (w : Int)) none none none noCommon := by
  fun_cases exportShape <;> simp [*, eq_comm]

/-- an open path stays open: exactly the path's points are written, in order, with its width -/
theorem c07_path_open (layer dt : Int) (pts : List Pt) (w : Nat) (g : Gds.Elem)
    (h : exportShape layer dt (.path pts w) = .ok g) :
    g = .path layer dt (pts.flatMap ptXY) (some (w : Int)) none none none noCommon :=
  (exportShape_ok_iff.1 h).2

/-- the path element the exporter writes comes back with the same points and width -/
theorem c07_path_roundtrip (known : List Bytes) (acc : Pass1) (layer dt : Int) (pts : List Pt) (w : Nat) :
    importElem known acc (.path layer dt (pts.flatMap ptXY) (some (w : Int)) none none none noCommon) =
      .ok { acc with elems := acc.elems ++ [⟨none, layer, dt, .path pts w⟩] } := by
  simp [importElem, pairUp_flatMap]

/-- a rectangle is written as its five-point boundary and recognised again as the same rectangle -/
theorem c07_rect_roundtrip (known : List Bytes) (acc : Pass1) (layer dt : Int) (p0 p1 : Pt) :
    importElem known acc (.boundary layer dt [p0.x, p0.y, p1.x, p0.y, p1.x, p1.y, p0.x, p1.y, p0.x, p0.y] noCommon) =
      .ok { acc with elems := acc.elems ++ [⟨none, layer, dt, .rect p0 p1⟩] } := by
  simp [importElem, pairUp, boundaryShape]

theorem import_exportShape (known : List Bytes) (acc : Pass1) {layer dt : Int} {s : Shape} {g : Gds.Elem}
    (h : exportShape layer dt s = .ok g) :
    importElem known acc g = .ok { acc with elems := acc.elems ++ [⟨none, layer, dt, normShape s⟩] } :=
  match s, exportShape_ok_iff.1 h with
  | .rect p0 p1, ⟨_, e⟩ => e ▸ c07_rect_roundtrip known acc layer dt p0 p1
  | .path pts w, ⟨_, e⟩ => e ▸ c07_path_roundtrip known acc layer dt pts w
  | .polygon (p0 :: rest), ⟨_, e⟩ => e ▸
    importElem_ok_iff.2 ⟨_, .boundary (rest := rest ++ [p0]) (pairUp_flatMap _) (List.getLast?_concat (l := p0 :: rest)),
      by rw [pairUp_flatMap, List.dropLast_concat, List.append_nil, List.append_nil]; rfl⟩

/-- instance orientation survives: reflection and angle are written into STRANS and read back -/
theorem c07_orientation_roundtrip (i : Inst) (g : Gds.Elem) (h : exportInst i = .ok g) :
    ∃ st, g = .sref i.cell [i.loc.x, i.loc.y] st noCommon ∧ importStrans st false = .ok (i.refl, i.angle) := by
  simp only [exportInst] at h
  split at h
  · cases h
    refine ⟨_, rfl, ?_⟩
    by_cases hc : (i.refl || i.angle.isSome) = true
    · simp [hc, importStrans]
    · simp only [hc]
      simp at hc
      simp [importStrans, hc.1, hc.2]
  · simp at h

theorem import_exportInst (known : List Bytes) (acc : Pass1) {i : Inst} {g : Gds.Elem} (h : exportInst i = .ok g)
    (hk : known.contains i.cell = true) :
    importElem known acc g = .ok { acc with insts := acc.insts ++ [eraseName i] } := by
  obtain ⟨st, rfl, hst⟩ := c07_orientation_roundtrip i g h
  exact importElem_ok_iff.2 ⟨_, .sref (List.contains_iff_mem.1 hk) rfl hst, by rw [List.append_nil, List.append_nil]; rfl⟩

theorem exportInsts_cons_ok {i : Inst} {r : List Inst} {gs : List Gds.Elem} (h : exportInsts (i :: r) = .ok gs) :
    ∃ g more, exportInst i = .ok g ∧ exportInsts r = .ok more ∧ gs = g :: more := by
  simp only [exportInsts] at h
  cases h1 : exportInst i <;> cases h2 : exportInsts r <;> simp only [h1, h2] at h <;> cases h
  exact ⟨_, _, rfl, rfl, rfl⟩

theorem exportElems_cons_ok {tbl : LabelTbl} {e : Elem} {r : List Elem} {gs : List Gds.Elem} (h : exportElems tbl (e :: r) = .ok gs) :
    ∃ g more, exportElem tbl e = .ok g ∧ exportElems tbl r = .ok more ∧ gs = g ++ more := by
  simp only [exportElems] at h
  cases h1 : exportElem tbl e <;> cases h2 : exportElems tbl r <;> simp only [h1, h2] at h <;> cases h
  exact ⟨_, _, rfl, rfl, rfl⟩

theorem exportCell_ok {tbl : LabelTbl} {c : Cell} {s : Gds.Struct} (h : exportCell tbl c = .ok s) :
    ∃ is es, exportInsts c.insts = .ok is ∧ exportElems tbl c.elems = .ok es ∧ s = ⟨c.name, zeroDates, is ++ es⟩ := by
  simp only [exportCell] at h
  cases h1 : exportInsts c.insts <;> cases h2 : exportElems tbl c.elems <;> simp only [h1, h2] at h <;> cases h
  exact ⟨_, _, rfl, rfl, rfl⟩

theorem exportElem_ok {tbl : LabelTbl} {e : Elem} {gs : List Gds.Elem} (h : exportElem tbl e = .ok gs) :
    ∃ g, exportShape e.layer e.purpose e.shape = .ok g ∧
      ((e.net = none ∧ gs = [g]) ∨ ∃ n lp loc st, e.net = some n ∧ labelLocation e.shape = .ok loc ∧
        gs = [g, .text n e.layer lp [loc.x, loc.y] none none none st noCommon]) := by
  revert h
  -- of the five paths of `exportElem` two succeed: 2 no net, 3 a net whose label is placed
  fun_cases exportElem tbl e
  case case2 g hg hn => rintro ⟨⟩; exact ⟨g, hg, .inl ⟨hn, rfl⟩⟩
  case case3 g hg n hn lp loc hloc _ _ st => rintro ⟨⟩; exact ⟨g, hg, .inr ⟨n, lp, loc, st, hn, hloc, rfl⟩⟩
  all_goals nofun

theorem importP1_insts (known : List Bytes) : ∀ (is : List Inst) (gs : List Gds.Elem) (acc : Pass1) (rest : List Gds.Elem),
    exportInsts is = .ok gs → (∀ i ∈ is, known.contains i.cell = true) →
    importElemsP1 known acc (gs ++ rest) = importElemsP1 known { acc with insts := acc.insts ++ is.map eraseName } rest
  | [], gs, acc, rest, h, _ => by cases h; simp
  | i :: r, gs, acc, rest, h, hk => by
    obtain ⟨g, gs', h1, h2, rfl⟩ := exportInsts_cons_ok h
    simp only [List.cons_append, importElemsP1, import_exportInst known acc h1 (hk i (by simp))]
    rw [importP1_insts known r gs' _ rest h2 (fun x hx => hk x (by simp [hx]))]
    simp

theorem importP1_elems_nets (known : List Bytes) (tbl : LabelTbl) : ∀ (es : List Elem) (gs : List Gds.Elem) (acc : Pass1),
    exportElems tbl es = .ok gs →
    importElemsP1 known acc gs = .ok { acc with elems := acc.elems ++ es.map stripE, texts := acc.texts ++ es.flatMap labelOf }
  | [], gs, acc, h => by cases h; simp [importElemsP1]
  | e :: r, gs, acc, h => by
    obtain ⟨g1, gs', h1, h2, rfl⟩ := exportElems_cons_ok h
    obtain ⟨g, h3, ⟨hn, rfl⟩ | ⟨n, lp, loc, st, hn, hloc, rfl⟩⟩ := exportElem_ok h1
    · simp only [List.cons_append, List.nil_append, importElemsP1, import_exportShape known acc h3]
      rw [importP1_elems_nets known tbl r gs' _ h2]
      simp [stripE, labelOf, hn]
    · simp only [List.cons_append, List.nil_append, importElemsP1, import_exportShape known acc h3]
      simp only [importElem, pairUp]
      rw [importP1_elems_nets known tbl r gs' _ h2]
      simp [stripE, labelOf, hn, hloc]

/-- the label names its own shape and nothing else (one step of the label pass) -/
theorem c07_label_names_one (pre post : List Elem) (e : Elem) (annots : List (Bytes × Pt)) (n : Bytes) (q : Pt)
    (hc : shapeContains e.shape q = true) (hnone : e.net = none) (hsep : ∀ x ∈ pre ++ post, hits e.layer q x = false) :
    applyText (pre ++ e :: post) annots (n, e.layer, q) = (pre ++ { e with net := some (lowerAscii n) } :: post, annots) := by
  have he : hits e.layer q e = true := by rw [hits, hc, beq_self_eq_true]; rfl
  have hid : ∀ l : List Elem, (∀ x ∈ l, hits e.layer q x = false) →
      l.map (fun x => if hits e.layer q x && x.net.isNone then { x with net := some (lowerAscii n) } else x) = l :=
    fun l hl => (List.map_congr_left fun x hx => by rw [hl x hx]; rfl).trans (List.map_id' l)
  rw [applyText_eq, if_pos (by rw [List.any_append, List.any_cons, he, Bool.true_or, Bool.or_true]), List.map_append, List.map_cons,
    hid pre fun x hx => hsep x (List.mem_append_left _ hx), hid post fun x hx => hsep x (List.mem_append_right _ hx), he, hnone]
  rfl

theorem sepOk_cons {done rest : List Elem} {e : Elem} : sepOk done (e :: rest) = true ↔
    (∀ n, e.net = some n → ∃ q, labelLocation e.shape = .ok q ∧ shapeContains (normShape e.shape) q = true ∧
      ∀ x ∈ done ++ rest.map stripE, hits e.layer q x = false) ∧ sepOk (done ++ [finalE e]) rest = true := by
  rw [sepOk, Bool.and_eq_true]
  refine and_congr ?_ Iff.rfl
  cases e.net with
  | none => exact ⟨fun _ _ h => (nomatch h), fun _ => rfl⟩
  | some n =>
    cases labelLocation e.shape with
    | err => exact ⟨fun h => (nomatch h), fun h => by obtain ⟨_, hq, _⟩ := h n rfl; cases hq⟩
    | ok q =>
      simp only [Bool.and_eq_true, List.all_eq_true, Bool.not_eq_true']
      exact ⟨fun ⟨h1, h2⟩ _ _ => ⟨q, rfl, h1, h2⟩, fun h => by obtain ⟨_, hq, h1, h2⟩ := h n rfl; cases hq; exact ⟨h1, h2⟩⟩

theorem label_step {e : Elem} {r done : List Elem} (annots : List (Bytes × Pt)) (h : sepOk done (e :: r) = true) :
    (labelOf e).foldl (fun acc t => applyText acc.1 acc.2 t) (done ++ stripE e :: r.map stripE, annots) =
      (done ++ finalE e :: r.map stripE, annots) := by
  cases hn : e.net with
  | none => simp [labelOf, finalE, stripE, hn]
  | some n =>
    obtain ⟨q, hq, hc, hs⟩ := (sepOk_cons.1 h).1 n hn
    simp only [labelOf, hn, hq, List.foldl_cons, List.foldl_nil]
    rw [show e.layer = (stripE e).layer from rfl, c07_label_names_one done (r.map stripE) (stripE e) annots n q hc rfl hs]
    simp [finalE, stripE, hn]

theorem fold_labels : ∀ (rest done : List Elem) (annots : List (Bytes × Pt)), sepOk done rest = true →
    (rest.flatMap labelOf).foldl (fun acc t => applyText acc.1 acc.2 t) (done ++ rest.map stripE, annots) = (done ++ rest.map finalE, annots)
  | [], _, _, _ => rfl
  | e :: r, done, annots, h => by
    rw [List.flatMap_cons, List.foldl_append, List.map_cons, label_step annots h]
    simpa using fold_labels r (done ++ [finalE e]) annots (sepOk_cons.1 h).2

theorem sepOk_nonets : ∀ (es done : List Elem), (∀ e ∈ es, e.net = none) → sepOk done es = true ∧ es.map finalE = es.map stripE
  | [], _, _ => ⟨rfl, rfl⟩
  | e :: r, done, h => by
    have he := h e List.mem_cons_self
    obtain ⟨h1, h2⟩ := sepOk_nonets r (done ++ [finalE e]) fun x hx => h x (List.mem_cons_of_mem _ hx)
    exact ⟨sepOk_cons.2 ⟨fun n hn => (nomatch he.symm.trans hn), h1⟩, by simp only [List.map_cons, h2, finalE, stripE, he, Option.map_none]⟩

/-- a cell through GDSII and back under label separation: instances (target, location, reflection, angle) and shapes
    (layer, purpose, points, width) in order, each net name, lower-cased, on the shape that carried it, no stray annotation -/
theorem c07_cell_roundtrip (known : List Bytes) (tbl : LabelTbl) (c : Cell) (s : Gds.Struct)
    (h : exportCell tbl c = .ok s) (hsep : sepOk [] c.elems = true) (hk : ∀ i ∈ c.insts, known.contains i.cell = true) :
    importStruct known s = .ok ⟨c.name, c.insts.map eraseName, c.elems.map finalE, []⟩ := by
  obtain ⟨is, es, h1, h2, rfl⟩ := exportCell_ok h
  simp only [importStruct]
  rw [importP1_insts known c.insts is {} es h1 hk, importP1_elems_nets known tbl c.elems es _ h2]
  have := fold_labels c.elems [] [] hsep
  simp only [List.nil_append] at this ⊢
  rw [this]

end L21.RawGds
