import L21.Model.RawProto
import L21.Proofs.ListFacts
/-
Raw ↔ protobuf, one layout.
Forward (raw → message → raw): the importer is total on the exporter's form of shape groups (`groupCanon`) and returns `F`;
what `groupElems` builds is in that form and imports, as a multiset, to the elements that went in (`groupElems_spec`).
Converse (message → raw → message): regrouping what was imported rebuilds every group in place (`regroup`), so a message
layout in the exporter's form (`layoutCanon`) comes back as written, and what the exporter writes is in that form.
-/
namespace L21.RawProto
open L21.Geom

theorem min_add_span (a b : Int) : min a b + (max a b - min a b) = max a b := by omega
theorem min_min_max (a b : Int) : min (min a b) (max a b) = min a b := by omega
theorem max_min_max (a b : Int) : max (min a b) (max a b) = max a b := by omega

theorem exportRect_canon (net : Bytes) (p : Pt) (w h : Int) (hw : 0 ≤ w) (hh : 0 ≤ h) :
    exportRect net p ⟨p.x + w, p.y + h⟩ = ⟨net, some p, w, h⟩ := by
  have e : ∀ a d : Int, 0 ≤ d → min a (a + d) = a ∧ max a (a + d) - a = d := fun a d hd => by omega
  simp only [exportRect, e _ _ hw, e _ _ hh]

theorem netStr_optNet (n : Bytes) : netStr (optNet n) = n := by
  unfold optNet; split <;> simp_all [netStr]

def normShape : Shape → Shape
  | .rect p0 p1 => .rect ⟨min p0.x p1.x, min p0.y p1.y⟩ ⟨max p0.x p1.x, max p0.y p1.y⟩
  | s => s
/-- what an element looks like after the trip: corners of rectangles named (min,min)/(max,max), an
    empty net name read as "no net"; layer, purpose, points, width unchanged -/
def normElem (e : Elem) : Elem := ⟨optNet (netStr e.net), e.layer, e.purpose, normShape e.shape⟩

/-- the raw side's condition: layer and purpose numbers fit the importer's `i16` check -/
def elemOkI (e : Elem) : Bool := inI16 e.layer && inI16 e.purpose

def pathOk (p : PPath) : Bool := decide (0 ≤ p.width)
/-- the form `export_rect` writes -/
def rectCanon (r : PRect) : Bool := r.ll.isSome && decide (0 ≤ r.w) && decide (0 ≤ r.h)
/-- the part of `groupCanon` that every group under construction has (non-emptiness aside); the importer asks less of
    a group: of a rectangle only its corner (`importRects_ok`) -/
def groupPre (g : LayerShapes) : Bool :=
  (match g.layer with | some (ln, pn) => inI16 ln && inI16 pn | none => false) &&
  g.rects.all rectCanon && g.paths.all pathOk
def groupCanon (g : LayerShapes) : Bool :=
  (match g.layer with | some (ln, pn) => inI16 ln && inI16 pn | none => false) &&
  g.rects.all rectCanon && g.paths.all pathOk && !(g.rects.isEmpty && g.polys.isEmpty && g.paths.isEmpty)

theorem groupPre_iff {g : LayerShapes} : groupPre g = true ↔
    ∃ k, g.layer = some k ∧ (inI16 k.1 = true ∧ inI16 k.2 = true) ∧ g.rects.all rectCanon = true ∧ g.paths.all pathOk = true := by
  cases hl : g.layer <;> simp [groupPre, hl, and_assoc]

theorem groupCanon_iff {g : LayerShapes} : groupCanon g = true ↔
    groupPre g = true ∧ (g.rects.isEmpty && g.polys.isEmpty && g.paths.isEmpty) = false := by
  rw [show groupCanon g = (groupPre g && !(g.rects.isEmpty && g.polys.isEmpty && g.paths.isEmpty)) from rfl,
    Bool.and_eq_true, Bool.not_eq_true']

theorem groupCanon_pre {g : LayerShapes} (h : groupCanon g = true) : groupPre g = true :=
  (groupCanon_iff.1 h).1

theorem all_groupCanon_pre {gs : List LayerShapes} (h : gs.all groupCanon = true) : gs.all groupPre = true :=
  List.all_eq_true.2 fun g hg => groupCanon_pre (List.all_eq_true.1 h g hg)

def rectsOf (rs : List PRect) : List (Bytes × Shape) :=
  rs.map fun r => (r.net, .rect (r.ll.getD ⟨0, 0⟩) ⟨(r.ll.getD ⟨0, 0⟩).x + r.w, (r.ll.getD ⟨0, 0⟩).y + r.h⟩)
def pathsOf (ps : List PPath) : List (Bytes × Shape) := ps.map fun p => (p.net, .path p.pts p.width.toNat)
def polysOf (ps : List PPoly) : List (Bytes × Shape) := ps.map fun p => (p.net, Shape.polygon p.verts)

theorem importRects_ok : ∀ (rs : List PRect), rs.all (·.ll.isSome) = true → importRects rs = .ok (rectsOf rs)
  | [], _ => rfl
  | r :: rest, h => by
    simp only [List.all_cons, Bool.and_eq_true] at h
    cases hl : r.ll with
    | none => simp [hl] at h
    | some p => simp [importRects, hl, importRects_ok rest h.2, rectsOf]

theorem rectCanon_ll {r : PRect} (h : rectCanon r = true) : r.ll.isSome = true := by
  simp only [rectCanon, Bool.and_eq_true] at h; exact h.1.1

theorem importPaths_ok : ∀ (ps : List PPath), ps.all pathOk = true → importPaths ps = .ok (pathsOf ps)
  | [], _ => rfl
  | p :: rest, h => by
    simp only [List.all_cons, Bool.and_eq_true, pathOk, decide_eq_true_eq] at h
    simp [importPaths, Int.not_lt.2 h.1, importPaths_ok rest h.2, pathsOf]

theorem importLayerShapes_ok {g : LayerShapes} {k : Int × Int} (hk : g.layer = some k) (h : groupPre g = true) :
    importLayerShapes g = .ok (k, rectsOf g.rects ++ polysOf g.polys ++ pathsOf g.paths) := by
  obtain ⟨k', hk', ⟨hl, hp⟩, hrs, hps⟩ := groupPre_iff.1 h
  cases hk.symm.trans hk'
  simp only [importLayerShapes, hk, hl, hp, Bool.and_self, Bool.not_true, Bool.false_eq_true, if_false,
    importRects_ok _ (List.all_eq_true.2 fun r hr => rectCanon_ll (List.all_eq_true.1 hrs r hr)), importPaths_ok _ hps, polysOf]

def groupElemsOut (g : LayerShapes) : List Elem :=
  match g.layer with
  | some k => (rectsOf g.rects ++ polysOf g.polys ++ pathsOf g.paths).map (fun s => ⟨optNet s.1, k.1, k.2, s.2⟩)
  | none => []

/-- the elements a list of well-formed groups is imported to -/
def F (gs : List LayerShapes) : List Elem := gs.flatMap groupElemsOut

theorem importElems_ok : ∀ (gs : List LayerShapes), gs.all groupPre = true → importElems gs = .ok (F gs)
  | [], _ => rfl
  | g :: rest, h => by
    simp only [List.all_cons, Bool.and_eq_true] at h
    obtain ⟨k, hk, _⟩ := groupPre_iff.1 h.1
    simp only [importElems, importLayerShapes_ok hk h.1, importElems_ok rest h.2, F, List.flatMap_cons, groupElemsOut, hk]

theorem addShape_layer (g : LayerShapes) (net : Bytes) (s : Shape) : (addShape g net s).layer = g.layer := by
  cases s <;> rfl

theorem addShape_canon (g : LayerShapes) (net : Bytes) (s : Shape) (h : groupPre g = true) :
    groupCanon (addShape g net s) = true := by
  obtain ⟨k, hk, hin, hr, hp⟩ := groupPre_iff.1 h
  cases s with
  | rect p0 p1 =>
    refine groupCanon_iff.2 ⟨groupPre_iff.2 ⟨k, hk, hin, ?_, hp⟩, by simp [addShape]⟩
    simp only [addShape, exportRect, List.all_append, hr, List.all_cons, List.all_nil, rectCanon, Option.isSome_some,
      Bool.true_and, Bool.and_true, Bool.and_eq_true, decide_eq_true_eq]
    omega
  | polygon pts => exact groupCanon_iff.2 ⟨groupPre_iff.2 ⟨k, hk, hin, hr, hp⟩, by simp [addShape]⟩
  | path pts w => exact groupCanon_iff.2 ⟨groupPre_iff.2 ⟨k, hk, hin, hr, by simp [addShape, hp, pathOk]⟩, by simp [addShape]⟩

theorem rectsOf_exportRect (rs : List PRect) (net : Bytes) (p0 p1 : Pt) :
    rectsOf (rs ++ [exportRect net p0 p1]) = rectsOf rs ++ [(net, normShape (.rect p0 p1))] := by
  simp only [rectsOf, List.map_append, List.map_cons, List.map_nil, exportRect, Option.getD_some, min_add_span, normShape]

/-- `Perm`, not equality: the element lands at the end of its kind -/
theorem addShape_out (g : LayerShapes) (k : Int × Int) (hk : g.layer = some k) (n : Option Bytes) (s : Shape) :
    (groupElemsOut (addShape g (netStr n) s)).Perm (groupElemsOut g ++ [⟨optNet (netStr n), k.1, k.2, normShape s⟩]) := by
  cases s with
  | rect p0 p1 =>
    simp only [groupElemsOut, addShape, hk, rectsOf_exportRect, List.map_append, List.map_cons, List.map_nil, List.append_assoc]
    exact List.Perm.append_left _ (List.perm_append_comm.trans (by simp))
  | polygon pts =>
    simp only [groupElemsOut, addShape, hk, polysOf, List.map_append, List.map_cons, List.map_nil, normShape, List.append_assoc]
    exact List.Perm.append_left _ (List.Perm.append_left _ List.perm_append_comm)
  | path pts w =>
    simp only [groupElemsOut, addShape, hk, pathsOf, List.map_append, List.map_cons, List.map_nil, normShape, List.append_assoc, Int.toNat_natCast]
    exact List.Perm.refl _

/-- what `groupElems` maps over the groups when the key has one already -/
def addShapeAt (key : Int × Int) (net : Bytes) (s : Shape) (g : LayerShapes) : LayerShapes :=
  if g.layer == some key then addShape g net s else g

/-- the accumulator after one element (the body of `groupElems`) -/
def groupStep (e : Elem) (acc : List LayerShapes) : List LayerShapes :=
  if acc.any (fun g => g.layer == some (e.layer, e.purpose)) then acc.map (addShapeAt (e.layer, e.purpose) (netStr e.net) e.shape)
  else acc ++ [addShape ⟨some (e.layer, e.purpose), [], [], []⟩ (netStr e.net) e.shape]

theorem groupElems_cons (e : Elem) (rest : List Elem) (acc : List LayerShapes) :
    groupElems (e :: rest) acc = groupElems rest (groupStep e acc) := rfl

theorem groupStep_old (e : Elem) (acc : List LayerShapes) (h : ∃ g ∈ acc, g.layer = some (e.layer, e.purpose)) :
    groupStep e acc = acc.map (addShapeAt (e.layer, e.purpose) (netStr e.net) e.shape) := by
  obtain ⟨g, hg, hk⟩ := h
  exact if_pos (List.any_eq_true.2 ⟨g, hg, by simp [hk]⟩)

theorem groupStep_new (e : Elem) (acc : List LayerShapes) (h : ∀ g ∈ acc, g.layer ≠ some (e.layer, e.purpose)) :
    groupStep e acc = acc ++ [addShape ⟨some (e.layer, e.purpose), [], [], []⟩ (netStr e.net) e.shape] :=
  if_neg (by simpa using h)

theorem addShapeAt_layer (key : Int × Int) (net : Bytes) (s : Shape) (g : LayerShapes) : (addShapeAt key net s g).layer = g.layer := by
  unfold addShapeAt; split
  · exact addShape_layer g net s
  · rfl

theorem addShapeAt_canon (key : Int × Int) (net : Bytes) (s : Shape) (g : LayerShapes) (h : groupCanon g = true) :
    groupCanon (addShapeAt key net s g) = true := by
  unfold addShapeAt; split
  · exact addShape_canon g _ _ (groupCanon_pre h)
  · exact h

theorem addShapeAt_ne (key : Int × Int) (net : Bytes) (s : Shape) {g : LayerShapes} (h : g.layer ≠ some key) : addShapeAt key net s g = g :=
  if_neg (by simpa using h)

theorem map_addShapeAt_id (key : Int × Int) (net : Bytes) (s : Shape) (gs : List LayerShapes)
    (h : ∀ g ∈ gs, g.layer ≠ some key) : gs.map (addShapeAt key net s) = gs :=
  (List.map_congr_left fun g hg => addShapeAt_ne key net s (h g hg)).trans (List.map_id gs)

theorem map_addShapeAt_perm (key : Int × Int) (n : Option Bytes) (s : Shape) : ∀ (gs : List LayerShapes),
    (gs.map (·.layer)).Nodup → (∃ g ∈ gs, g.layer = some key) →
    (F (gs.map (addShapeAt key (netStr n) s))).Perm (F gs ++ [⟨optNet (netStr n), key.1, key.2, normShape s⟩])
  | [], _, ⟨_, hg, _⟩ => nomatch hg
  | g :: r, hnd, hex => by
    obtain ⟨hnotin, hnd'⟩ := List.nodup_cons.1 hnd
    simp only [List.map_cons, F, List.flatMap_cons]
    by_cases hk : g.layer = some key
    · have hrest : ∀ x ∈ r, x.layer ≠ some key := fun x hx e => hnotin (List.mem_map.2 ⟨x, hx, e.trans hk.symm⟩)
      rw [map_addShapeAt_id key _ s r hrest, addShapeAt, if_pos (by simp [hk])]
      exact ((addShape_out g key hk n s).append_right _).trans (by
        simp only [List.append_assoc]
        exact List.Perm.append_left _ List.perm_append_comm)
    · obtain ⟨x, hx, hxk⟩ := hex
      have hx' : x ∈ r := (List.mem_cons.1 hx).resolve_left fun e => hk (e ▸ hxk)
      rw [addShapeAt_ne key _ s hk, List.append_assoc]
      exact List.Perm.append_left _ (map_addShapeAt_perm key n s r hnd' ⟨x, hx', hxk⟩)

theorem groupStep_spec (e : Elem) (acc : List LayerShapes) (hc : acc.all groupCanon = true)
    (hnd : (acc.map (·.layer)).Nodup) (he : elemOkI e = true) :
    (groupStep e acc).all groupCanon = true ∧ ((groupStep e acc).map (·.layer)).Nodup ∧
      (F (groupStep e acc)).Perm (F acc ++ [normElem e]) := by
  by_cases hex : ∃ g ∈ acc, g.layer = some (e.layer, e.purpose)
  · rw [groupStep_old e acc hex]
    refine ⟨?_, ?_, map_addShapeAt_perm _ e.net e.shape acc hnd hex⟩
    · simp only [List.all_map, List.all_eq_true, Function.comp]
      exact fun g hg => addShapeAt_canon _ _ _ g (List.all_eq_true.1 hc g hg)
    · simpa only [List.map_map, Function.comp_def, addShapeAt_layer] using hnd
  · have hnone : ∀ g ∈ acc, g.layer ≠ some (e.layer, e.purpose) := fun g hg hk => hex ⟨g, hg, hk⟩
    rw [groupStep_new e acc hnone]
    refine ⟨?_, ?_, ?_⟩
    · simp only [elemOkI, Bool.and_eq_true] at he
      simp only [List.all_append, hc, List.all_cons, List.all_nil, Bool.and_true, Bool.true_and]
      exact addShape_canon _ _ _ (groupPre_iff.2 ⟨_, rfl, he, rfl, rfl⟩)
    · simp only [List.map_append, List.map_cons, List.map_nil, addShape_layer, List.nodup_append]
      refine ⟨hnd, by simp, fun a ha b hb e' => ?_⟩
      obtain ⟨g, hg, rfl⟩ := List.mem_map.1 ha
      exact hnone g hg (e'.trans (List.mem_singleton.1 hb))
    · have hout := addShape_out ⟨some (e.layer, e.purpose), [], [], []⟩ (e.layer, e.purpose) rfl e.net e.shape
      simp only [F, List.flatMap_append, List.flatMap_cons, List.flatMap_nil, List.append_nil]
      exact List.Perm.append_left _ (by simpa [groupElemsOut, rectsOf, polysOf, pathsOf, normElem] using hout)

/-- the exporter's grouping: the groups stay in canonical form with distinct keys, and what they import to is, as a multiset,
    what went in (each normalised) -/
theorem groupElems_spec : ∀ (es : List Elem) (acc : List LayerShapes),
    acc.all groupCanon = true → (acc.map (·.layer)).Nodup → es.all elemOkI = true →
    (groupElems es acc).all groupCanon = true ∧ ((groupElems es acc).map (·.layer)).Nodup ∧
      (F (groupElems es acc)).Perm (F acc ++ es.map normElem)
  | [], acc, h1, h2, _ => ⟨h1, h2, by simp [groupElems]⟩
  | e :: rest, acc, hc, hnd, hes => by
    simp only [List.all_cons, Bool.and_eq_true] at hes
    obtain ⟨a, b, c⟩ := groupStep_spec e acc hc hnd hes.1
    obtain ⟨r1, r2, r3⟩ := groupElems_spec rest _ a b hes.2
    exact ⟨r1, r2, r3.trans (by simpa using c.append_right _)⟩

/-- C14: the groups the exporter builds are in its canonical form, keys distinct -/
theorem groupElems_canon : ∀ (es : List Elem) (acc : List LayerShapes),
    acc.all groupCanon = true → (acc.map (·.layer)).Nodup → es.all elemOkI = true →
    (groupElems es acc).all groupCanon = true ∧ ((groupElems es acc).map (·.layer)).Nodup :=
  fun es acc h1 h2 he => have ⟨hc, hn, _⟩ := groupElems_spec es acc h1 h2 he; ⟨hc, hn⟩

/-- an instance after the trip: a stored angle of 0° is read as "no angle" -/
def normInst (i : Inst) : Inst := { i with angle := if i.angle.getD 0 = 0 then none else some (i.angle.getD 0) }

theorem importInsts_export (known : List Bytes) : ∀ (is : List Inst), (∀ i ∈ is, known.contains i.cell = true) →
    importInsts known (is.map exportInst) = .ok (is.map normInst)
  | [], _ => rfl
  | i :: r, h => by
    simp only [List.map_cons, importInsts, exportInst, importInsts_export known r fun x hx => h x (by simp [hx]),
      h i (by simp), if_true, normInst]

theorem importAnnots_export : ∀ (as : List (Bytes × Pt)), importAnnots (as.map (fun a => (a.1, some a.2))) = .ok as
  | [] => rfl
  | a :: r => by simp only [List.map_cons, importAnnots, importAnnots_export r]

def tripLayout (l : Layout) : Layout := ⟨l.name, l.insts.map normInst, F (groupElems l.elems []), l.annotations⟩

theorem importLayout_export (known : List Bytes) (l : Layout)
    (hi : ∀ i ∈ l.insts, known.contains i.cell = true) (he : l.elems.all elemOkI = true) :
    importLayout known (exportLayout l) = .ok (tripLayout l) := by
  have h1 := (groupElems_spec l.elems [] rfl List.nodup_nil he).1
  simp only [importLayout, exportLayout, importInsts_export known l.insts hi, importElems_ok _ (all_groupCanon_pre h1),
    importAnnots_export, tripLayout]

theorem tripLayout_elems (l : Layout) (he : l.elems.all elemOkI = true) :
    (tripLayout l).elems.Perm (l.elems.map normElem) :=
  (groupElems_spec l.elems [] rfl List.nodup_nil he).2.2

theorem groupElems_append : ∀ (es1 es2 : List Elem) (acc : List LayerShapes),
    groupElems (es1 ++ es2) acc = groupElems es2 (groupElems es1 acc)
  | [], _, _ => rfl
  | _ :: r, es2, _ => groupElems_append r es2 _

/-- the group a run of elements of `h`'s key builds onto `h` (`groupElems_same_key`) -/
def build (es : List Elem) (h : LayerShapes) : LayerShapes := es.foldl (fun h e => addShape h (netStr e.net) e.shape) h

theorem build_layer (es : List Elem) (h : LayerShapes) : (build es h).layer = h.layer :=
  List.foldlRecOn es _ (motive := fun g => g.layer = h.layer) rfl fun g hg _ _ => (addShape_layer g _ _).trans hg

theorem build_append (a b : List Elem) (h : LayerShapes) : build (a ++ b) h = build b (build a h) :=
  List.foldl_append

theorem groupElems_same_key (key : Int × Int) : ∀ (es : List Elem) (acc : List LayerShapes) (h : LayerShapes),
    (∀ e ∈ es, (e.layer, e.purpose) = key) → h.layer = some key → (∀ x ∈ acc, x.layer ≠ some key) →
    groupElems es (acc ++ [h]) = acc ++ [build es h]
  | [], _, _, _, _, _ => rfl
  | e :: r, acc, h, hes, hh, hacc => by
    have hk : (e.layer, e.purpose) = key := hes e (by simp)
    rw [groupElems_cons, groupStep_old e _ ⟨h, by simp, hk ▸ hh⟩, hk, List.map_append, map_addShapeAt_id key _ _ acc hacc]
    simp only [List.map_cons, List.map_nil, addShapeAt, hh, beq_self_eq_true, if_true]
    exact groupElems_same_key key r acc _ (fun x hx => hes x (by simp [hx])) ((addShape_layer _ _ _).trans hh) hacc

theorem groupElems_new_key (key : Int × Int) (es : List Elem) (acc : List LayerShapes)
    (hes : ∀ e ∈ es, (e.layer, e.purpose) = key) (hne : es ≠ []) (hacc : ∀ x ∈ acc, x.layer ≠ some key) :
    groupElems es acc = acc ++ [build es ⟨some key, [], [], []⟩] := by
  cases es with
  | nil => exact absurd rfl hne
  | cons e r =>
    have hk : (e.layer, e.purpose) = key := hes e (by simp)
    rw [groupElems_cons, groupStep_new e acc (hk ▸ hacc), hk]
    exact groupElems_same_key key r acc _ (fun x hx => hes x (by simp [hx])) (addShape_layer _ _ _) hacc

theorem build_map {α : Type} (k : Int × Int) (f : α → Bytes × Shape) (xs : List α) (h : LayerShapes) :
    build ((xs.map f).map (fun s => (⟨optNet s.1, k.1, k.2, s.2⟩ : Elem))) h =
      xs.foldl (fun h x => addShape h (f x).1 (f x).2) h := by
  simp only [build, List.foldl_map, netStr_optNet]

theorem build_rects (k : Int × Int) (rs : List PRect) (h : LayerShapes) (hc : rs.all rectCanon = true) :
    build ((rectsOf rs).map (fun s => (⟨optNet s.1, k.1, k.2, s.2⟩ : Elem))) h = { h with rects := h.rects ++ rs } := by
  rw [rectsOf, build_map]
  refine foldl_collect _ (fun l => { h with rects := l }) rs (fun acc r hr => ?_) h.rects
  obtain ⟨net, ll, w, ht⟩ := r
  have := List.all_eq_true.1 hc _ hr
  simp only [rectCanon, Bool.and_eq_true, decide_eq_true_eq, Option.isSome_iff_exists] at this
  obtain ⟨⟨⟨p, rfl⟩, hw⟩, hh⟩ := this
  simp [addShape, exportRect_canon net p w ht hw hh]

theorem build_polys (k : Int × Int) (ps : List PPoly) (h : LayerShapes) :
    build ((polysOf ps).map (fun s => (⟨optNet s.1, k.1, k.2, s.2⟩ : Elem))) h = { h with polys := h.polys ++ ps } := by
  rw [polysOf, build_map]
  refine foldl_collect _ (fun l => { h with polys := l }) ps (fun acc q _ => ?_) h.polys
  simp [addShape]

theorem build_paths (k : Int × Int) (ps : List PPath) (h : LayerShapes) (hc : ps.all pathOk = true) :
    build ((pathsOf ps).map (fun s => (⟨optNet s.1, k.1, k.2, s.2⟩ : Elem))) h = { h with paths := h.paths ++ ps } := by
  rw [pathsOf, build_map]
  refine foldl_collect _ (fun l => { h with paths := l }) ps (fun acc q hq => ?_) h.paths
  have := List.all_eq_true.1 hc _ hq
  simp only [pathOk, decide_eq_true_eq] at this
  simp [addShape, Int.toNat_of_nonneg this]

theorem build_group {g : LayerShapes} {k : Int × Int} (hk : g.layer = some k) (hc : groupCanon g = true) :
    build (groupElemsOut g) ⟨some k, [], [], []⟩ = g := by
  obtain ⟨_, _, _, hr, hp⟩ := groupPre_iff.1 (groupCanon_pre hc)
  simp only [groupElemsOut, hk, List.map_append, build_append]
  rw [build_rects k g.rects _ hr, build_polys, build_paths k g.paths _ hp]
  cases g; simp_all

theorem groupElemsOut_key {g : LayerShapes} {k : Int × Int} (hk : g.layer = some k) : ∀ e ∈ groupElemsOut g, (e.layer, e.purpose) = k := by
  intro e he
  simp only [groupElemsOut, hk, List.mem_map] at he
  obtain ⟨s, _, rfl⟩ := he
  rfl

theorem groupElemsOut_ne {g : LayerShapes} {k : Int × Int} (hk : g.layer = some k) (hc : groupCanon g = true) : groupElemsOut g ≠ [] := by
  intro h
  simp only [groupElemsOut, hk, List.map_eq_nil_iff, List.append_eq_nil_iff, rectsOf, polysOf, pathsOf] at h
  obtain ⟨⟨h1, h2⟩, h3⟩ := h
  simpa [h1, h2, h3] using (groupCanon_iff.1 hc).2

/-- regrouping what was imported gives the groups back, in order.  The elements of one group arrive together and no earlier
    group has their key: the first opens a group at the end, the others land in it in order (`groupElems_new_key`), and a
    group built from what it was imported to is that group (`build_group`). -/
theorem regroup : ∀ (gs acc : List LayerShapes), gs.all groupCanon = true → ((acc ++ gs).map (·.layer)).Nodup →
    groupElems (F gs) acc = acc ++ gs := by
  intro gs
  induction gs with
  | nil => intro acc _ _; simp [F, groupElems]
  | cons g rest ih =>
    intro acc hc hnd
    simp only [List.all_cons, Bool.and_eq_true] at hc
    obtain ⟨hg, hrest⟩ := hc
    obtain ⟨k, hk, _⟩ := groupPre_iff.1 (groupCanon_pre hg)
    have hacc : ∀ x ∈ acc, x.layer ≠ some k := by
      intro x hx e
      simp only [List.map_append, List.map_cons] at hnd
      have := (List.nodup_append.1 hnd).2.2 x.layer (List.mem_map_of_mem hx) g.layer (by simp)
      exact this (by rw [e, hk])
    simp only [F, List.flatMap_cons]
    rw [groupElems_append, groupElems_new_key k _ acc (groupElemsOut_key hk) (groupElemsOut_ne hk hg) hacc, build_group hk hg]
    have := ih (acc ++ [g]) hrest (by simpa [List.append_assoc] using hnd)
    simpa [F, List.append_assoc] using this

/-- a message instance the importer accepts: a local reference to a known cell, with an origin -/
def pinstOk (known : List Bytes) (i : PInst) : Bool :=
  (match i.ref with | .localRef n => known.contains n | _ => false) && i.origin.isSome

theorem pinstOk_exportInst (known : List Bytes) (i : Inst) : pinstOk known (exportInst i) = known.contains i.cell := by
  simp [pinstOk, exportInst]

/-- the importer's name resolution: every instance it lets through names a known cell -/
theorem importInsts_known (known : List Bytes) : ∀ (is : List PInst) (out : List Inst), importInsts known is = .ok out →
    ∀ i ∈ out, known.contains i.cell = true
  | [], _, h, i, hi => by cases h; cases hi
  | a :: r, out, h, i, hi => by
    rw [importInsts] at h
    split at h
    · rename_i n loc more _ _ hm
      split at h
      · cases h
        rcases List.mem_cons.1 hi with rfl | hi
        · assumption
        · exact importInsts_known known r more hm i hi
      · cases h
    · cases h

theorem importInsts_back (known : List Bytes) : ∀ (is : List PInst), is.all (pinstOk known) = true →
    ∃ out, importInsts known is = .ok out ∧ out.map exportInst = is
  | [], _ => ⟨[], rfl, rfl⟩
  | ⟨name, ref, origin, refl, rot⟩ :: r, h => by
    simp only [List.all_cons, Bool.and_eq_true, pinstOk] at h
    obtain ⟨out, ho, hm⟩ := importInsts_back known r h.2
    match ref, origin, h.1 with
    | .localRef n, some loc, ⟨hkn, _⟩ =>
      refine ⟨⟨name, n, loc, refl, if rot = 0 then none else some rot⟩ :: out, by simp only [importInsts, ho, hkn, if_true], ?_⟩
      simp only [List.map_cons, hm, exportInst]
      congr 2
      by_cases h0 : rot = 0 <;> simp [h0]

theorem importAnnots_back : ∀ (as : List (Bytes × Option Pt)), as.all (fun a => a.2.isSome) = true →
    ∃ out, importAnnots as = .ok out ∧ out.map (fun a => (a.1, some a.2)) = as
  | [], _ => ⟨[], rfl, rfl⟩
  | (_, none) :: _, h => by simp at h
  | (s, some q) :: r, h => by
    simp only [List.all_cons, Bool.and_eq_true] at h
    obtain ⟨out, ho, hm⟩ := importAnnots_back r h.2
    exact ⟨(s, q) :: out, by simp [importAnnots, ho], by simp [hm]⟩

/-- a message layout in the exporter's form, all references resolved by `known` -/
def layoutCanon (known : List Bytes) (p : PLayout) : Prop :=
  p.insts.all (pinstOk known) = true ∧ p.shapes.all groupCanon = true ∧ (p.shapes.map (·.layer)).Nodup ∧
  p.annotations.all (fun a => a.2.isSome) = true

/-- C14, the converse trip of one layout: a message layout in the exporter's form converts to raw and back to the same message -/
theorem c14_proto_layout_roundtrip (known : List Bytes) (p : PLayout) (h : layoutCanon known p) :
    ∃ l, importLayout known p = .ok l ∧ exportLayout l = p := by
  obtain ⟨hi, hg, hk, ha⟩ := h
  obtain ⟨is, h1, h1'⟩ := importInsts_back known p.insts hi
  obtain ⟨as, h3, h3'⟩ := importAnnots_back p.annotations ha
  refine ⟨⟨p.name, is, F p.shapes, as⟩, by simp [importLayout, h1, importElems_ok _ (all_groupCanon_pre hg), h3], ?_⟩
  simp only [exportLayout, h1', h3', regroup p.shapes [] hg hk, List.nil_append]

/-- C14: every layout the exporter writes satisfies `layoutCanon`, the converse trip's hypothesis -/
theorem c14_exported_layout_canon (known : List Bytes) (l : Layout)
    (hi : ∀ i ∈ l.insts, known.contains i.cell = true) (he : l.elems.all elemOkI = true) :
    layoutCanon known (exportLayout l) := by
  obtain ⟨hc, hn⟩ := groupElems_canon l.elems [] rfl List.nodup_nil he
  refine ⟨?_, hc, hn, ?_⟩
  · simpa [exportLayout, List.all_map, List.all_eq_true, pinstOk_exportInst] using hi
  · simp [exportLayout, List.all_map, List.all_eq_true]

end L21.RawProto
