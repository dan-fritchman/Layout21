import L21.Proofs.RawProto
/-
Raw ↔ protobuf, abstract views (the per-layer shape maps of ports and blockages), forward trip (lemmas for C14): one layer's
group, a layer map, the ports, the whole abstract.
-/
namespace L21.RawProto
open L21.Geom

def isRect : Shape → Bool | .rect _ _ => true | _ => false
def isPoly : Shape → Bool | .polygon _ => true | _ => false
def isPath : Shape → Bool | .path _ _ => true | _ => false
/-- the order in which a layer's shapes come back: rectangles, then polygons, then paths (each kind in
    its original order), rectangles with corners named (min,min)/(max,max) -/
def kindSort (ss : List Shape) : List Shape :=
  (ss.filter isRect ++ ss.filter isPoly ++ ss.filter isPath).map normShape

theorem shapesOf_pre (k : Int × Int) (ss : List Shape) (h1 : inI16 k.1 = true) (h2 : inI16 k.2 = true) :
    groupPre (shapesOf k ss) = true ∧ (shapesOf k ss).layer = some k :=
  List.foldlRecOn ss _ (motive := fun g => groupPre g = true ∧ g.layer = some k) ⟨groupPre_iff.2 ⟨k, rfl, ⟨h1, h2⟩, rfl, rfl⟩, rfl⟩
    fun g ⟨hp, hl⟩ s _ => ⟨groupCanon_pre (addShape_canon g [] s hp), (addShape_layer g [] s).trans hl⟩

theorem foldl_addShape : ∀ (ss : List Shape) (g : LayerShapes),
    (rectsOf (ss.foldl (fun acc s => addShape acc [] s) g).rects).map (·.2) =
      (rectsOf g.rects).map (·.2) ++ (ss.filter isRect).map normShape ∧
    (polysOf (ss.foldl (fun acc s => addShape acc [] s) g).polys).map (·.2) =
      (polysOf g.polys).map (·.2) ++ (ss.filter isPoly).map normShape ∧
    (pathsOf (ss.foldl (fun acc s => addShape acc [] s) g).paths).map (·.2) =
      (pathsOf g.paths).map (·.2) ++ (ss.filter isPath).map normShape
  | [], g => by simp
  | s :: rest, g => by
    obtain ⟨h1, h2, h3⟩ := foldl_addShape rest (addShape g [] s)
    rw [List.foldl_cons, h1, h2, h3]
    cases s <;>
      simp [addShape, rectsOf_exportRect, polysOf, pathsOf, isRect, isPoly, isPath, normShape, List.filter_cons]

theorem import_shapesOf (k : Int × Int) (ss : List Shape) (hk : inI16 k.1 = true ∧ inI16 k.2 = true) :
    ∃ out, importLayerShapes (shapesOf k ss) = .ok (k, out) ∧ out.map (·.2) = kindSort ss := by
  obtain ⟨hok, hl⟩ := shapesOf_pre k ss hk.1 hk.2
  obtain ⟨h1, h2, h3⟩ := foldl_addShape ss ⟨some k, [], [], []⟩
  exact ⟨_, importLayerShapes_ok hl hok, by simp only [shapesOf, List.map_append, h1, h2, h3, kindSort]; rfl⟩

theorem mapInsert_last : ∀ (m : List (Int × List Shape)) (k : Int) (v : List Shape), (∀ e ∈ m, e.1 < k) →
    mapInsert m k v = m ++ [(k, v)]
  | [], _, _, _ => rfl
  | (k', v') :: r, k, v, h => by
    have hlt : k' < k := h (k', v') (by simp)
    have h1 : ¬ k = k' := by omega
    have h2 : ¬ k < k' := by omega
    simp only [mapInsert, h1, h2, if_false, List.cons_append]
    rw [mapInsert_last r k v (fun x hx => h x (by simp [hx]))]

def sortedKeys : List (Int × List Shape) → Bool
  | [] => true
  | [_] => true
  | a :: b :: rest => decide (a.1 < b.1) && sortedKeys (b :: rest)

theorem sortedKeys_tail : ∀ (a : Int × List Shape) (r : List (Int × List Shape)), sortedKeys (a :: r) = true →
    sortedKeys r = true ∧ ∀ e ∈ r, a.1 < e.1
  | _, [], _ => ⟨rfl, nofun⟩
  | a, b :: rest, h => by
    simp only [sortedKeys, Bool.and_eq_true, decide_eq_true_eq] at h
    refine ⟨h.2, fun e he => ?_⟩
    rcases List.mem_cons.1 he with rfl | he
    · exact h.1
    · exact Int.lt_trans h.1 ((sortedKeys_tail b rest h.2).2 e he)

/-- the layer rows of the table give every layer of the map an in-range purpose number -/
def mapOk (tbl : LayerTbl) (pin : Bool) (m : List (Int × List Shape)) : Bool :=
  m.all (fun e => inI16 e.1 && (match tbl.find? (fun r => r.1 == e.1) with
    | some row => (match (if pin then row.2.1 else row.2.2) with | some pn => inI16 pn | none => false)
    | none => false))

theorem exportLayerMap_cons_eq_ok {tbl : LayerTbl} {pin : Bool} {ln : Int} {ss : List Shape} {rest : List (Int × List Shape)}
    {gs : List LayerShapes} (h : exportLayerMap tbl pin ((ln, ss) :: rest) = .ok gs) :
    ∃ row pn more, tbl.find? (fun r => r.1 == ln) = some row ∧ (if pin then row.2.1 else row.2.2) = some pn ∧
      exportLayerMap tbl pin rest = .ok more ∧ gs = shapesOf (ln, pn) ss :: more := by
  simp only [exportLayerMap] at h
  split at h
  · cases h
  · rename_i row hf
    split at h
    · rename_i pn more hp hr
      cases h
      exact ⟨row, pn, more, hf, hp, hr, rfl⟩
    · cases h

/-- a per-layer shape map there and back: same layers in the same order; per layer the same shapes, grouped by kind -/
theorem layerMap_roundtrip (tbl : LayerTbl) (pin : Bool) : ∀ (m acc : List (Int × List Shape)) (gs : List LayerShapes),
    exportLayerMap tbl pin m = .ok gs → mapOk tbl pin m = true → sortedKeys m = true →
    (∀ e ∈ acc, ∀ x ∈ m, e.1 < x.1) →
    importLayerMap acc gs = .ok (acc ++ m.map (fun e => (e.1, kindSort e.2)))
  | [], acc, gs, h, _, _, _ => by cases h; simp [importLayerMap]
  | (ln, ss) :: rest, acc, gs, h, hok, hs, hacc => by
    obtain ⟨row, pn, more, hf, hp, hr, rfl⟩ := exportLayerMap_cons_eq_ok h
    simp only [mapOk, List.all_cons, Bool.and_eq_true, hf, hp] at hok
    obtain ⟨out, hi, ho⟩ := import_shapesOf (ln, pn) ss hok.1
    obtain ⟨hs', hgt⟩ := sortedKeys_tail (ln, ss) rest hs
    simp only [importLayerMap, hi]
    rw [mapInsert_last acc ln _ (fun x hx => hacc x hx (ln, ss) (by simp)), ho]
    rw [layerMap_roundtrip tbl pin rest (acc ++ [(ln, kindSort ss)]) more hr (by simpa [mapOk] using hok.2) hs' (by
      intro x hx y hy
      rcases List.mem_append.1 hx with h1 | h1
      · exact hacc x h1 y (by simp [hy])
      · simp only [List.mem_singleton] at h1; subst h1; exact hgt y hy)]
    simp

def normMap (m : List (Int × List Shape)) : List (Int × List Shape) := m.map (fun e => (e.1, kindSort e.2))
def normAbs (a : Abstract) : Abstract :=
  { a with ports := a.ports.map (fun p => ⟨p.net, normMap p.shapes⟩), blockages := normMap a.blockages }
def absOk (tbl : LayerTbl) (a : Abstract) : Bool :=
  a.ports.all (fun p => mapOk tbl true p.shapes && sortedKeys p.shapes) && mapOk tbl false a.blockages && sortedKeys a.blockages

theorem ports_roundtrip (tbl : LayerTbl) : ∀ (ps : List Port) (pps : List PPort), exportPorts tbl ps = .ok pps →
    ps.all (fun p => mapOk tbl true p.shapes && sortedKeys p.shapes) = true →
    importPorts pps = .ok (ps.map (fun p => ⟨p.net, normMap p.shapes⟩))
  | [], pps, h, _ => by cases h; rfl
  | p :: rest, pps, h, hok => by
    simp only [List.all_cons, Bool.and_eq_true] at hok
    obtain ⟨⟨h1, h2⟩, hrest⟩ := hok
    simp only [exportPorts] at h
    split at h
    · rename_i s more he hr
      cases h
      have := layerMap_roundtrip tbl true p.shapes [] s he h1 h2 (by intro e he'; cases he')
      simp only [List.nil_append] at this
      simp only [importPorts, this, ports_roundtrip tbl rest more hr hrest, List.map_cons, normMap]
    · cases h

/-- C14, abstract views: name and outline; every port with its net; per layer (in layer-number order) the same shapes
    grouped by kind -/
theorem c14_abstract (tbl : LayerTbl) (a : Abstract) (pa : PAbs) (h : exportAbs tbl a = .ok pa) (hok : absOk tbl a = true) :
    importAbs pa = .ok (normAbs a) := by
  simp only [absOk, Bool.and_eq_true] at hok
  obtain ⟨⟨hp, hb1⟩, hb2⟩ := hok
  simp only [exportAbs] at h
  split at h
  · rename_i ps bs he hl
    cases h
    have hb := layerMap_roundtrip tbl false a.blockages [] bs hl hb1 hb2 (by intro e he'; cases he')
    simp only [List.nil_append] at hb
    simp only [importAbs, ports_roundtrip tbl a.ports ps he hp, hb, normAbs, normMap]
  · cases h

end L21.RawProto
