import L21.Proofs.RawProtoAbs
import L21.Proofs.Dep
/-
Raw ↔ protobuf, the cell list and the whole library (lemmas for C14).  The importer resolves an instance's cell name among the
cells read so far (`known`).  Forward: the exporter's dependency order provides that (`importLib_export`; a cell after the
trip is `tripCell`, `cellsEq` says the same as a relation).  Converse: a message cell list in the exporter's form (`MsgOk`)
comes back as written, and its import is listed dependencies-first (`importCells_back`); the exporter writes that form for
layout-only libraries (`LibOk`).
-/
namespace L21.RawProto
open L21.Geom

def tripCell (c : Cell) : Cell := ⟨c.name, c.layout.map tripLayout, c.abs.map normAbs⟩

def noDangling (cells : List Cell) : Prop :=
  ∀ c ∈ cells, ∀ lay, c.layout = some lay → ∀ i ∈ lay.insts, ∃ c' ∈ cells, c'.name = i.cell
def cellRangeOk (tbl : LayerTbl) (c : Cell) : Prop :=
  (∀ lay, c.layout = some lay → lay.elems.all elemOkI = true) ∧ (∀ a, c.abs = some a → absOk tbl a = true)

theorem importCells_exportCell (tbl : LayerTbl) (known : List Bytes) (c : Cell) (pc : PCell) (more : List PCell)
    (cs' : List Cell) (he : exportCell tbl c = .ok pc)
    (hi : ∀ l, c.layout = some l → ∀ i ∈ l.insts, known.contains i.cell = true) (hrng : cellRangeOk tbl c)
    (hr : importCells (c.name :: known) more = .ok cs') : importCells known (pc :: more) = .ok (tripCell c :: cs') := by
  obtain ⟨n, lay, ab⟩ := c
  have hl : ∀ l, lay = some l → importLayout known (exportLayout l) = .ok (tripLayout l) :=
    fun l h => importLayout_export known l (hi l h) (hrng.1 l h)
  cases ab with
  | none =>
    cases he
    cases lay <;> simp only [importCells, Option.map_none, Option.map_some, hl, hr, tripCell]
  | some a =>
    simp only [exportCell] at he
    split at he
    · rename_i pa hea
      cases he
      have ha := c14_abstract tbl a pa hea (hrng.2 a rfl)
      cases lay <;> simp only [importCells, Option.map_none, Option.map_some, hl, ha, hr, tripCell]
    · cases he

/-- every instance of every cell names a cell that stands earlier in the list, or one in `known` -/
def InstsKnown : List Bytes → List Cell → Prop
  | _, [] => True
  | known, c :: rest => (∀ lay, c.layout = some lay → ∀ i ∈ lay.insts, known.contains i.cell = true) ∧ InstsKnown (c.name :: known) rest

theorem instsKnown_of_split : ∀ (cs : List Cell) (known : List Bytes),
    (∀ l1 c l2, cs = l1 ++ c :: l2 → ∀ l, c.layout = some l →
      ∀ i ∈ l.insts, ((l1.map (·.name)).reverse ++ known).contains i.cell = true) → InstsKnown known cs
  | [], _, _ => trivial
  | c :: rest, known, h => ⟨h [] c rest rfl, instsKnown_of_split rest (c.name :: known) fun l1 c' l2 e => by
      have := h (c :: l1) c' l2 (by rw [e]; rfl)
      rwa [List.map_cons, List.reverse_cons, List.append_assoc] at this⟩

theorem importCells_export (tbl : LayerTbl) : ∀ (cs : List Cell) (pcs : List PCell) (known : List Bytes),
    exportCells tbl cs = .ok pcs → (∀ c ∈ cs, cellRangeOk tbl c) → InstsKnown known cs →
    importCells known pcs = .ok (cs.map tripCell)
  | [], _, _, h, _, _ => by cases h; rfl
  | c :: rest, pcs, known, h, hrng, hi => by
    simp only [exportCells] at h
    split at h
    · rename_i pc more he hr
      cases h
      exact importCells_exportCell tbl known c pc more _ he hi.1 (hrng c List.mem_cons_self)
        (importCells_export tbl rest more (c.name :: known) hr (fun x hx => hrng x (List.mem_cons_of_mem _ hx)) hi.2)
    · cases h

theorem mem_cellAdj {cells : List Cell} {i d : Nat} : d ∈ cellAdj cells i ↔
    ∃ c lay inst, cells[i]? = some c ∧ c.layout = some lay ∧ inst ∈ lay.insts ∧ cellIndex cells inst.cell = d := by
  unfold cellAdj
  cases hc : cells[i]? with
  | none => simp
  | some c => cases hl : c.layout <;> simp [hl]

theorem cellIndex_spec (cells : List Cell) (n : Bytes) (j : Nat) (hj : j < cells.length) (hn : cells[j].name = n) :
    ∃ c, cells[cellIndex cells n]? = some c ∧ c.name = n ∧ cellIndex cells n ≤ j := by
  unfold cellIndex
  cases hf : cells.findIdx? (fun c => c.name == n) with
  | none => simpa [hn] using List.findIdx?_eq_none_iff.1 hf cells[j] (List.getElem_mem hj)
  | some i =>
    obtain ⟨hi, hp, hmin⟩ := List.findIdx?_eq_some_iff_getElem.1 hf
    refine ⟨cells[i], by simp [hi], by simpa using hp, Nat.not_lt.1 fun hlt => hmin j hlt (by simp [hn])⟩

theorem exportLib_eq_ok {tbl : LayerTbl} {l : Lib} {p : PLib} (hp : exportLib tbl l = .ok p) :
    ∃ order pcs, l.units ≠ 3 ∧ Dep.order (cellAdj l.cells) (l.cells.length + 1) (List.range l.cells.length) = .ok order ∧
      exportCells tbl (order.filterMap (fun i => l.cells[i]?)) = .ok pcs ∧ p = ⟨l.name, (l.units : Int), pcs⟩ := by
  unfold exportLib at hp
  split at hp
  · cases hp
  · split at hp
    · split at hp
      · rename_i hu _ order ho _ pcs he
        cases hp
        exact ⟨order, pcs, hu, ho, he, rfl⟩
      · cases hp
    · cases hp

/-- a whole library there and back: name and units; the cells in the exporter's dependency order (C17), which lists every
    instantiated cell before its user, each as `tripCell` leaves it -/
theorem importLib_export (tbl : LayerTbl) (l : Lib) (p : PLib) (hu : l.units ≤ 3) (hp : exportLib tbl l = .ok p)
    (hnd : noDangling l.cells) (hrng : ∀ c ∈ l.cells, cellRangeOk tbl c) :
    ∃ order, Dep.order (cellAdj l.cells) (l.cells.length + 1) (List.range l.cells.length) = .ok order ∧
      importLib p = .ok ⟨l.name, l.units, (order.filterMap (fun i => l.cells[i]?)).map tripCell⟩ := by
  obtain ⟨order, pcs, hu3, ho, he, rfl⟩ := exportLib_eq_ok hp
  refine ⟨order, ho, ?_⟩
  have hdeps := (Dep.order_ok_spec ho).1.deps_before
  have := importCells_export tbl _ pcs [] he (fun c hc => hrng c (mem_of_mem_listed hc)) <|
    instsKnown_of_split _ [] fun l1 c l2 e lay hlay i hi => by
      obtain ⟨x, hx, hbefore⟩ := listed_deps_before l.cells hdeps e
      obtain ⟨c', hc', hn⟩ := hnd c (List.mem_of_getElem? hx) lay hlay i hi
      obtain ⟨j, hj, rfl⟩ := List.getElem_of_mem hc'
      obtain ⟨cd, hcd, hname, _⟩ := cellIndex_spec l.cells i.cell j hj hn
      have := hbefore _ (mem_cellAdj.2 ⟨c, lay, i, hx, hlay, hi, rfl⟩) cd hcd
      simpa using ⟨cd, this, hname⟩
  have h2 : ¬ ((l.units : Int) < 0 ∨ 2 < (l.units : Int)) := by omega
  simp only [importLib, h2, if_false, this, Int.toNat_natCast]

def layoutEq (l' l : Layout) : Prop :=
  l'.name = l.name ∧ l'.insts = l.insts.map normInst ∧ l'.annotations = l.annotations ∧ l'.elems.Perm (l.elems.map normElem)
def cellEq (c' c : Cell) : Prop :=
  c'.name = c.name ∧ (match c'.layout, c.layout with
    | some l', some l => layoutEq l' l
    | none, none => True
    | _, _ => False) ∧ c'.abs = c.abs.map normAbs
def cellsEq : List Cell → List Cell → Prop
  | [], [] => True
  | c' :: r', c :: r => cellEq c' c ∧ cellsEq r' r
  | _, _ => False

theorem layoutEq_trip (l : Layout) (he : l.elems.all elemOkI = true) : layoutEq (tripLayout l) l :=
  ⟨rfl, rfl, rfl, tripLayout_elems l he⟩

theorem cellEq_trip (c : Cell) (he : ∀ l, c.layout = some l → l.elems.all elemOkI = true) : cellEq (tripCell c) c := by
  refine ⟨rfl, ?_, rfl⟩
  cases hl : c.layout with
  | none => simp [tripCell, hl]
  | some l => simpa [tripCell, hl] using layoutEq_trip l (he l hl)

theorem cellsEq_map (f : Cell → Cell) : ∀ (cs : List Cell), (∀ c ∈ cs, cellEq (f c) c) → cellsEq (cs.map f) cs
  | [], _ => trivial
  | c :: r, h => ⟨h c (by simp), cellsEq_map f r fun x hx => h x (by simp [hx])⟩

/-- a message cell list in the exporter's form: layout views only, every cell listed after the cells it uses -/
def MsgOk : List Bytes → List PCell → Prop
  | _, [] => True
  | known, c :: rest => c.abs = none ∧ (∀ lay, c.layout = some lay → layoutCanon known lay) ∧ MsgOk (c.name :: known) rest

theorem importCells_back (tbl : LayerTbl) : ∀ (pcs : List PCell) (known : List Bytes), MsgOk known pcs →
    ∃ cs, importCells known pcs = .ok cs ∧ exportCells tbl cs = .ok pcs ∧ InstsKnown known cs
  | [], _, _ => ⟨[], rfl, rfl, trivial⟩
  | ⟨name, layout, _⟩ :: rest, known, ⟨rfl, hlay, hrest⟩ => by
    obtain ⟨cs, hi, he, hk⟩ := importCells_back tbl rest (name :: known) hrest
    cases layout with
    | none => exact ⟨⟨name, none, none⟩ :: cs, by simp [importCells, hi], by simp [exportCells, exportCell, he], nofun, hk⟩
    | some lay =>
      obtain ⟨l, hl, hle⟩ := c14_proto_layout_roundtrip known lay (hlay lay rfl)
      refine ⟨⟨name, some l, none⟩ :: cs, by simp [importCells, hl, hi], by simp [exportCells, exportCell, he, hle], ?_, hk⟩
      -- `l` is exported to `lay`, whose instances all name known cells
      intro l' hl' i hi
      cases hl'
      rw [← pinstOk_exportInst]
      exact List.all_eq_true.1 (hlay lay rfl).1 _ (hle ▸ List.mem_map_of_mem hi)

theorem instsKnown_earlier : ∀ (cs : List Cell) (known : List Bytes), InstsKnown known cs →
    ∀ (i : Nat) (c : Cell) (lay : Layout), cs[i]? = some c → c.layout = some lay → ∀ inst ∈ lay.insts,
      inst.cell ∈ (cs.take i).map (·.name) ∨ inst.cell ∈ known
  | c :: _, _, ⟨hc, _⟩, 0, _, lay, e, hl, inst, hin => by
    cases e
    exact .inr (by simpa using hc lay hl inst hin)
  | c :: r, known, ⟨_, hr⟩, k + 1, c', lay, e, hl, inst, hin => by
    rw [List.take_succ_cons, List.map_cons, List.mem_cons]
    rcases instsKnown_earlier r (c.name :: known) hr k c' lay (by simpa using e) hl inst hin with h | h
    · exact .inl (.inr h)
    · exact (List.mem_cons.1 h).imp .inl id

/-- every instance of every cell refers to a cell listed earlier (by first occurrence of the name) -/
def ListedBeforeUsers (cells : List Cell) : Prop :=
  ∀ i, i < cells.length → ∀ d ∈ cellAdj cells i, d < i

theorem listedBeforeUsers_of_instsKnown (cs : List Cell) (h : InstsKnown [] cs) : ListedBeforeUsers cs := by
  intro i _ d hd
  obtain ⟨c, lay, inst, hc, hl, hin, rfl⟩ := mem_cellAdj.1 hd
  rcases instsKnown_earlier cs [] h i c lay hc hl inst hin with hm | hm
  · obtain ⟨c', hc', hn⟩ := List.mem_map.1 hm
    obtain ⟨j, hj, rfl⟩ := List.getElem_of_mem hc'
    rw [List.length_take] at hj
    obtain ⟨_, _, _, hle⟩ := cellIndex_spec cs inst.cell j (by omega) (by rw [← hn, List.getElem_take])
    omega
  · cases hm

/-- a raw cell list with layout views only, every cell after the cells it uses, i16 layer/purpose numbers -/
def LibOk : List Bytes → List Cell → Prop
  | _, [] => True
  | known, c :: rest => c.abs = none ∧
      (∀ lay, c.layout = some lay → (∀ i ∈ lay.insts, known.contains i.cell = true) ∧ lay.elems.all elemOkI = true) ∧
      LibOk (c.name :: known) rest

theorem exportCells_msgOk (tbl : LayerTbl) : ∀ (cs : List Cell) (known : List Bytes), LibOk known cs →
    ∃ pcs, exportCells tbl cs = .ok pcs ∧ MsgOk known pcs
  | [], _, _ => ⟨[], rfl, trivial⟩
  | ⟨name, layout, _⟩ :: r, known, ⟨rfl, hl, hr⟩ => by
    obtain ⟨pcs, he, hm⟩ := exportCells_msgOk tbl r (name :: known) hr
    refine ⟨⟨name, layout.map exportLayout, none⟩ :: pcs, by simp [exportCells, exportCell, he], rfl, ?_, hm⟩
    intro lay hlay
    obtain ⟨l0, hc, rfl⟩ := Option.map_eq_some_iff.1 hlay
    exact c14_exported_layout_canon known l0 (hl l0 hc).1 (hl l0 hc).2

theorem libOk_iff : ∀ (cs : List Cell) (known : List Bytes), LibOk known cs ↔
    InstsKnown known cs ∧ ∀ c ∈ cs, c.abs = none ∧ ∀ lay, c.layout = some lay → lay.elems.all elemOkI = true
  | [], _ => by simp [LibOk, InstsKnown]
  | c :: r, known => by
    simp only [LibOk, InstsKnown, libOk_iff r, List.forall_mem_cons]
    exact ⟨fun ⟨ha, hl, hk, hr⟩ => ⟨⟨fun lay h => (hl lay h).1, hk⟩, ⟨ha, fun lay h => (hl lay h).2⟩, hr⟩,
      fun ⟨⟨hi, hk⟩, ⟨ha, he⟩, hr⟩ => ⟨ha, fun lay h => ⟨hi lay h, he lay h⟩, hk, hr⟩⟩

end L21.RawProto
