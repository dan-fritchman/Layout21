import L21.Model.TProto
import L21.Proofs.ListFacts
/-
Lemmas for C19: the renumbered library the round trip yields (`renum*`), each exported piece read back by its importer
(`im_ex_*`), the cell list as a whole (`imCells_export`).
-/

namespace L21.TProto

def renumInst (ord : List Nat) (i : Inst) : Inst := { i with cell := ord.idxOf i.cell }
def renumLayout (ord : List Nat) (l : Layout) : Layout := { l with insts := l.insts.map (renumInst ord) }
def renumCell (ord : List Nat) (c : Cell) : Cell := { c with layout := c.layout.map (renumLayout ord) }

def cellOutlinesOk (c : Cell) : Prop :=
  (∀ l, c.layout = some l → outlineOk l.ox l.oy = true) ∧ (∀ a, c.abs = some a → outlineOk a.ox a.oy = true)

structure WF (tbl : List Cell) (ord : List Nat) : Prop where
  outlines : ∀ i ∈ ord, cellOutlinesOk (getC tbl i)
  names : (ord.map (cellName tbl)).Nodup

theorem imNat_ofNat (n : Nat) : imNat (n : Int) = some n := by
  simp [imNat]

theorem im_ex_cross (c : Cross) : imCross (exCross c) = some c := by
  cases c with | mk t x =>
  cases t; cases x
  simp [imCross, exCross, exRef, imRef, imNat_ofNat]

theorem im_ex_assign (a : Assign) : imAssign (exAssign a) = some a := by
  cases a
  simp [imAssign, exAssign, im_ex_cross]

theorem im_outline (x y : List Int) (m : Nat) (h : outlineOk x y = true) :
    imOutline ⟨x, y, m⟩ = some (x, y, m) := by
  simp [imOutline, imNat_ofNat, h]

theorem lookupFrom_not_mem (n : Bytes) : ∀ (ms : List Bytes) (i : Nat) (best : Option Nat),
    n ∉ ms → lookupFrom n ms i best = best := by
  intro ms
  induction ms with
  | nil => intros; rfl
  | cons m r ih =>
    intro i best h
    simp only [List.mem_cons, not_or] at h
    simp only [lookupFrom]
    have : (m == n) = false := by simpa using fun e => h.1 e.symm
    rw [this, ih _ _ h.2]; rfl

theorem lookupFrom_split (n : Bytes) : ∀ (pre post : List Bytes) (i : Nat) (best : Option Nat),
    n ∉ post → lookupFrom n (pre ++ n :: post) i best = some (i + pre.length) := by
  intro pre
  induction pre with
  | nil =>
    intro post i best h
    simp [lookupFrom, lookupFrom_not_mem n post _ _ h]
  | cons m r ih =>
    intro post i best h
    simp only [List.cons_append, lookupFrom, List.length_cons]
    rw [ih post (i + 1) _ h]
    congr 1; omega

theorem lookup_map_idxOf {f : Nat → Bytes} : ∀ (l : List Nat) (j : Nat), j ∈ l → (l.map f).Nodup →
    lookup (l.map f) (f j) = some (l.idxOf j) := by
  intro l j hj hn
  obtain ⟨pre, post, rfl, hpre⟩ := List.eq_append_cons_of_mem hj
  simp only [List.map_append, List.map_cons] at hn ⊢
  have hpost : f j ∉ post.map f := by
    have := (List.nodup_append.1 hn).2.1
    exact (List.nodup_cons.1 this).1
  unfold lookup
  rw [lookupFrom_split (f j) (pre.map f) (post.map f) 0 none hpost]
  simp [List.idxOf_append, hpre]

theorem im_ex_inst {tbl : List Cell} {names : List Bytes} {i : Inst} {k : Nat}
    (h : lookup names (cellName tbl i.cell) = some k) :
    imInst names (exInst tbl i) = some { i with cell := k } := by
  simp [imInst, exInst, h]

theorem cellOutlinesOk_iff (c : Cell) : cellOutlinesOk c ↔
    (c.layout.all (fun l => outlineOk l.ox l.oy) && c.abs.all (fun a => outlineOk a.ox a.oy)) = true := by
  cases c with | mk n l a => cases l <;> cases a <;> simp [cellOutlinesOk]

theorem im_ex_abs (a : Abs) (h : outlineOk a.ox a.oy = true) : imAbs (exAbs a) = some a := by
  simp [imAbs, exAbs, im_outline _ _ _ h]

theorem im_ex_layout {tbl : List Cell} {names : List Bytes} {ord : List Nat} {l : Layout} (hok : outlineOk l.ox l.oy = true)
    (hl : ∀ i ∈ l.insts, lookup names (cellName tbl i.cell) = some (ord.idxOf i.cell)) :
    imLayout names (exLayout tbl l) = some (renumLayout ord l) := by
  have hins : (l.insts.map (exInst tbl)).mapM (imInst names) = some (l.insts.map (renumInst ord)) :=
    mapM_map_some _ _ _ l.insts fun i hi => im_ex_inst (hl i hi)
  have has : (l.assigns.map exAssign).mapM imAssign = some (l.assigns.map id) :=
    mapM_map_some _ _ _ l.assigns fun a _ => im_ex_assign a
  have hcu : (l.cuts.map exCross).mapM imCross = some (l.cuts.map id) :=
    mapM_map_some _ _ _ l.cuts fun a _ => im_ex_cross a
  rw [List.map_id] at has hcu
  simp [imLayout, exLayout, im_outline _ _ _ hok, hins, has, hcu, renumLayout]

theorem im_ex_cell {tbl : List Cell} {names : List Bytes} {ord : List Nat} {c : Cell}
    (ho : cellOutlinesOk c)
    (hl : ∀ l, c.layout = some l → ∀ i ∈ l.insts, lookup names (cellName tbl i.cell) = some (ord.idxOf i.cell)) :
    imCell names (exCell tbl c) = some (renumCell ord c) := by
  obtain ⟨name, layout, abs⟩ := c
  have habs : imAbsOpt (abs.map exAbs) = some abs := by
    cases abs with
    | none => rfl
    | some a => simp [imAbsOpt, im_ex_abs a (ho.2 a rfl)]
  have hlay : imLayoutOpt names (layout.map (exLayout tbl)) = some (layout.map (renumLayout ord)) := by
    cases layout with
    | none => rfl
    | some l => simp [imLayoutOpt, im_ex_layout (ho.1 l rfl) (hl l rfl)]
  simp [imCell, exCell, hlay, habs, renumCell]

/-- `imCells` reads the cells one after the other, each against the names of those read before it -/
theorem imCells_map {f : Nat → PCell} {g : Nat → Cell} (l2 : List Nat) : ∀ l1 : List Nat,
    (∀ pre x post, l2 = pre ++ x :: post → imCell (((l1 ++ pre).map g).map (·.name)) (f x) = some (g x)) →
    imCells (l2.map f) (l1.map g) = some ((l1 ++ l2).map g) := by
  induction l2 with
  | nil => intro l1 _; rw [List.append_nil]; rfl
  | cons x r ih =>
    intro l1 h
    have hx := h [] x r rfl
    rw [List.append_nil] at hx
    rw [List.map_cons, imCells, hx, List.append_cons l1 x r, ← ih (l1 ++ [x]) fun pre y post e => by
      rw [List.append_assoc]; exact h (x :: pre) y post (by rw [e]; rfl)]
    rw [List.map_append]; rfl

/-- dependencies first is what makes every reference resolvable: the names read before a cell are those of the cells
    before it in `ord`, its dependencies among them, each at its position in `ord` -/
theorem imCells_export (tbl : List Cell) (ord : List Nat) (wf : WF tbl ord)
    (hdeps : ∀ l1 x l2, ord = l1 ++ x :: l2 → ∀ d ∈ deps tbl x, d ∈ l1) :
    imCells (ord.map fun i => exCell tbl (getC tbl i)) [] = some (ord.map fun i => renumCell ord (getC tbl i)) := by
  refine imCells_map ord [] fun pre x post e => ?_
  have hnd : (pre.map (cellName tbl)).Nodup := by
    have := wf.names
    rw [e, List.map_append] at this
    exact (List.nodup_append.1 this).1
  rw [List.nil_append, List.map_map]
  apply im_ex_cell (wf.outlines x (e ▸ List.mem_append_right _ List.mem_cons_self))
  intro l hl i hi
  have hin : i.cell ∈ pre := hdeps pre x post e i.cell (by simp only [deps, hl]; exact List.mem_map_of_mem hi)
  exact (lookup_map_idxOf pre i.cell hin hnd).trans (by rw [e, List.idxOf_append, if_pos hin])

end L21.TProto
