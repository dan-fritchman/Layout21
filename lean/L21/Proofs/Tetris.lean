import L21.Model.Tetris
import L21.Proofs.ListFacts
/-
Lemmas for C08.  A track is a `Chain` of segments; a successful `cut_or_block` / `set_net` replaced one segment by its
pieces.  Every stage of `compilePeriod` is a fold of steps: a blockage acts on every track (`BlockStep`), a cut and a net
assignment on one signal track (`SigStep`); the `…_eq_some` lemmas read a successful step as such.  `compilePeriod_invP`
carries an invariant of the period through all stages (`compilePeriod_inv`: a property of single tracks);
`foldlM_made_kept` finds a requested segment (`HasAt`: on signal track `k`) from the step that makes it.
-/

namespace L21.Tetris

/-- the segments of a track tile [a, b] in order, without gap or overlap -/
def Chain : Int → List Seg → Int → Prop
  | a, [], b => a = b
  | a, s :: rest, b => s.start = a ∧ s.start ≤ s.stop ∧ Chain s.stop rest b

theorem Chain.append {l₁ l₂ : List Seg} {a b : Int} : Chain a (l₁ ++ l₂) b ↔ ∃ c, Chain a l₁ c ∧ Chain c l₂ b := by
  induction l₁ generalizing a with
  | nil => simp [Chain]
  | cons s l₁ ih => simp [Chain, ih, and_assoc]

theorem Chain.le : ∀ {segs : List Seg} {a b : Int}, Chain a segs b → a ≤ b := by
  intro segs
  induction segs with
  | nil => exact fun h => Int.le_of_eq h
  | cons s r ih => exact fun ⟨h1, h2, h3⟩ => by have := ih h3; omega

theorem Chain.end_le {segs : List Seg} {a b u : Int} (h : Chain a segs b) (ha : a ≤ u) (hs : ∀ x ∈ segs, x.stop ≤ u) :
    b ≤ u := by
  induction segs generalizing a with
  | nil => exact h ▸ ha
  | cons s _ ih => exact ih h.2.2 (hs s List.mem_cons_self) fun x hx => hs x (List.mem_cons_of_mem _ hx)

def isGap (s : Seg) : Bool := s.tp == .cut || s.tp == .block

/-- the pieces `cutOrBlockGo` writes in place of `s` -/
def splitOf (s : Seg) (start stop : Int) (tp : SegT) : List Seg :=
  { s with stop := start } :: ⟨tp, start, stop⟩ :: if s.stop ≠ stop then [⟨s.tp, stop, s.stop⟩] else []

theorem splitOf_chain {s : Seg} {start stop : Int} {tp : SegT} (h1 : s.start ≤ start) (h2 : start ≤ stop) (h3 : stop ≤ s.stop) :
    Chain s.start (splitOf s start stop tp) s.stop := by
  refine ⟨rfl, h1, rfl, h2, ?_⟩
  by_cases he : s.stop ≠ stop
  · rw [if_pos he]; exact ⟨rfl, h3, rfl⟩
  · rw [if_neg he]; exact (Decidable.not_not.1 he).symm

theorem cutOrBlockGo_eq_some {start stop : Int} {tp : SegT} {segs out : List Seg}
    (h : cutOrBlockGo start stop tp segs = some out) :
    ∃ pre s post, segs = pre ++ s :: post ∧ out = pre ++ (splitOf s start stop tp ++ post) ∧
      isGap s = false ∧ stop ≤ s.stop ∧ ∀ x ∈ pre, x.stop ≤ start := by
  induction segs generalizing out with
  | nil => cases h
  | cons s r ih =>
    rw [cutOrBlockGo] at h
    by_cases hgt : s.stop > start
    · rw [if_pos hgt] at h
      split at h
      · cases h
      · cases h
      · rename_i hc hb
        by_cases hlt : s.stop < stop
        · rw [if_pos hlt] at h; cases h
        · rw [if_neg hlt] at h
          exact ⟨[], s, r, rfl, (Option.some.inj h).symm, by simpa [isGap] using ⟨hc, hb⟩, Int.not_lt.1 hlt,
            fun _ hx => absurd hx List.not_mem_nil⟩
    · rw [if_neg hgt] at h
      obtain ⟨o, ho, rfl⟩ := Option.map_eq_some_iff.1 h
      obtain ⟨pre, x, post, e1, e2, h3, h4, h5⟩ := ih ho
      exact ⟨s :: pre, x, post, by rw [e1]; rfl, by rw [e2]; rfl, h3, h4, List.forall_mem_cons.2 ⟨Int.not_lt.1 hgt, h5⟩⟩

theorem cutOrBlock_eq_some {segs out : List Seg} {start stop : Int} {tp : SegT} (h : cutOrBlock segs start stop tp = some out) :
    (∀ f ∈ segs.head?, f.start ≤ start) ∧ cutOrBlockGo start stop tp segs = some out := by
  unfold cutOrBlock at h
  split at h
  · rename_i last first _ hf
    by_cases h1 : stop > last.stop
    · rw [if_pos h1] at h; cases h
    by_cases h2 : start < first.start
    · rw [if_neg h1, if_pos h2] at h; cases h
    · rw [if_neg h1, if_neg h2] at h
      exact ⟨fun f hm => (Option.some.inj (hf.symm.trans hm)) ▸ Int.not_lt.1 h2, h⟩
  · cases h

theorem cutOrBlock_chain {segs out : List Seg} {a b start stop : Int} {tp : SegT} (hss : start ≤ stop)
    (hc : Chain a segs b) (h : cutOrBlock segs start stop tp = some out) : Chain a out b := by
  obtain ⟨hf, hgo⟩ := cutOrBlock_eq_some h
  have ha : a ≤ start := by
    cases segs with
    | nil => cases hgo
    | cons f _ => exact hc.1 ▸ hf f rfl
  obtain ⟨pre, s, post, rfl, rfl, _, h4, h5⟩ := cutOrBlockGo_eq_some hgo
  obtain ⟨c, hpre, rfl, hs, hpost⟩ := Chain.append.1 hc
  exact Chain.append.2 ⟨_, hpre, Chain.append.2 ⟨s.stop, splitOf_chain (hpre.end_le ha h5) hss h4, hpost⟩⟩

theorem cutOrBlock_mem {segs out : List Seg} {start stop : Int} {tp : SegT} (h : cutOrBlock segs start stop tp = some out) :
    (⟨tp, start, stop⟩ : Seg) ∈ out ∧ (∀ x ∈ segs, isGap x = true → x ∈ out) ∧
    ∀ x ∈ out, x ∈ segs ∨ x = ⟨tp, start, stop⟩ ∨ ∃ s ∈ segs, isGap s = false ∧ x.tp = s.tp := by
  obtain ⟨pre, s, post, rfl, rfl, hs, -⟩ := cutOrBlockGo_eq_some (cutOrBlock_eq_some h).2
  have hin : s ∈ pre ++ s :: post := List.mem_append_right _ List.mem_cons_self
  refine ⟨by simp [splitOf], fun x hx hg => mem_splice.1 x hx fun e => ?_,
    fun x hx => (mem_splice.2 x hx).imp_right fun hm => ?_⟩
  · rw [e, hs] at hg; cases hg
  · simp only [splitOf, List.mem_cons] at hm
    rcases hm with rfl | rfl | hm
    · exact .inr ⟨s, hin, hs, rfl⟩
    · exact .inl rfl
    · split at hm
      · exact .inr ⟨s, hin, hs, by rw [List.mem_singleton.1 hm]⟩
      · cases hm

/-- `out = segs`: the position lies inside a blockage, where `set_net` changes nothing; otherwise one wire containing
    `pos` got the net -/
theorem setNet_effect {pos : Int} {net : Bytes} : ∀ {segs out : List Seg}, setNet pos net segs = some out →
    out = segs ∨ ∃ pre s post, segs = pre ++ s :: post ∧ (∃ n, s.tp = .wire n) ∧ s.start ≤ pos ∧ pos ≤ s.stop ∧
      out = pre ++ { s with tp := .wire (some net) } :: post := by
  intro segs out h
  induction segs generalizing out with
  | nil => cases h
  | cons s r ih =>
    rw [setNet] at h
    by_cases hgt : s.start > pos
    · rw [if_pos hgt] at h; cases h
    rw [if_neg hgt] at h
    by_cases hin : s.start ≤ pos ∧ s.stop ≥ pos
    · rw [if_pos hin] at h
      split at h
      · rename_i n hn
        exact .inr ⟨[], s, r, rfl, ⟨n, hn⟩, hin.1, hin.2, (Option.some.inj h).symm⟩
      · exact .inl (Option.some.inj h).symm
      · cases h
      · cases h
    · rw [if_neg hin] at h
      obtain ⟨o, ho, rfl⟩ := Option.map_eq_some_iff.1 h
      rcases ih ho with rfl | ⟨pre, x, post, rfl, h2, h3, h4, rfl⟩
      · exact .inl rfl
      · exact .inr ⟨s :: pre, x, post, rfl, h2, h3, h4, rfl⟩

theorem setNet_chain {segs out : List Seg} {a b pos : Int} {net : Bytes} (hc : Chain a segs b)
    (h : setNet pos net segs = some out) : Chain a out b := by
  rcases setNet_effect h with rfl | ⟨pre, s, post, rfl, -, -, -, rfl⟩
  · exact hc
  · have ⟨c, h1, h2⟩ := Chain.append.1 hc
    exact Chain.append.2 ⟨c, h1, h2⟩

theorem setNet_mem {segs out : List Seg} {pos : Int} {net : Bytes} (h : setNet pos net segs = some out) :
    (∀ x ∈ segs, isGap x = true → x ∈ out) ∧
    ∀ x ∈ out, x ∈ segs ∨ (x.tp = .wire (some net) ∧ x.start ≤ pos ∧ pos ≤ x.stop) := by
  rcases setNet_effect h with rfl | ⟨pre, s, post, rfl, ⟨n, hn⟩, h3, h4, rfl⟩
  · exact ⟨fun _ hx _ => hx, fun _ hx => .inl hx⟩
  · have sp := mem_splice (pre := pre) (post := post) (s := s) (mid := [{ s with tp := .wire (some net) }])
    exact ⟨fun x hx hg => sp.1 x hx fun e => (by rw [e, isGap, hn] at hg; cases hg),
      fun x hx => (sp.2 x hx).imp_right fun hm => by rw [List.mem_singleton.1 hm]; exact ⟨rfl, h3, h4⟩⟩

def shiftT (d : Int) (t : TT × Int × Int) : TT × Int × Int := (t.1, t.2.1 + d, t.2.2)
def mirrorT (c total : Int) (t : TT × Int × Int) : TT × Int × Int := (t.1, 2 * c + total - t.2.1 - t.2.2, t.2.2)

theorem widthSum_cons (e : Entry) (es : List Entry) : widthSum (e :: es) = e.w + widthSum es := by
  simp [widthSum]
theorem widthSum_append (a b : List Entry) : widthSum (a ++ b) = widthSum a + widthSum b := by
  simp [widthSum, List.sum_append]
theorem widthSum_reverse (a : List Entry) : widthSum a.reverse = widthSum a := by
  simp [widthSum]

theorem tracksFrom_append : ∀ (a b : List Entry) (c : Int),
    tracksFrom c (a ++ b) = tracksFrom c a ++ tracksFrom (c + widthSum a) b := by
  intro a
  induction a with
  | nil => intro b c; simp [tracksFrom, widthSum]
  | cons e r ih =>
    intro b c
    simp only [List.cons_append, tracksFrom, ih, widthSum_cons, List.append_assoc]
    congr 2
    congr 1
    omega

theorem tracksFrom_shift : ∀ (es : List Entry) (c d : Int),
    tracksFrom (c + d) es = (tracksFrom c es).map (shiftT d) := by
  intro es
  induction es with
  | nil => intros; rfl
  | cons e r ih =>
    intro c d
    simp only [tracksFrom, List.map_append]
    rw [show c + d + e.w = (c + e.w) + d by omega, ih]
    congr 1
    split <;> simp [shiftT]

theorem tracksFrom_reverse : ∀ (es : List Entry) (c : Int),
    tracksFrom c es.reverse = ((tracksFrom c es).map (mirrorT c (widthSum es))).reverse := by
  intro es
  induction es with
  | nil => intro c; rfl
  | cons e r ih =>
    intro c
    simp only [List.reverse_cons, tracksFrom_append, widthSum_reverse, tracksFrom, List.map_append,
      List.reverse_append, List.append_nil]
    rw [ih c]
    congr 1
    · -- the tail: mirror in the longer period after shifting by e.w
      rw [tracksFrom_shift r c e.w, List.map_map]
      congr 1
      apply List.map_congr_left
      intro t _
      simp [mirrorT, shiftT, widthSum_cons]
      omega
    · split
      · simp
      · simp [mirrorT, widthSum_cons]; omega

theorem filter_isRail_map (f : TT × Int × Int → TT × Int × Int) (hf : ∀ t, (f t).1 = t.1) (l : List (TT × Int × Int)) :
    (l.map f).filter isRail = (l.filter isRail).map f :=
  filter_map_comm (fun t => by simp [isRail, hf]) l

theorem periodSignals_of_period (m : Metal) (p : Nat) :
    (m.periodTracks p).filter isSig =
      if m.flip && p % 2 == 1 then
        ((m.periodSignals.map (mirrorT m.offset m.total)).reverse).map (shiftT (m.pitch * p))
      else m.periodSignals.map (shiftT (m.pitch * p)) := by
  unfold Metal.periodTracks Metal.periodEntries Metal.periodSignals
  split
  · rw [tracksFrom_shift, tracksFrom_reverse, filter_map_comm (q := isSig) (f := shiftT _) fun _ => rfl, List.filter_reverse,
      filter_map_comm (q := isSig) (f := mirrorT _ _) fun _ => rfl]
    rfl
  · rw [tracksFrom_shift, filter_map_comm (q := isSig) (f := shiftT _) fun _ => rfl]

theorem periodSignals_get (m : Metal) {j : Nat} (hj : j < m.periodSignals.length) :
    ∃ s w, m.periodSignals[j]? = some (.sig, s, w) := by
  have := (List.mem_filter.1 (List.getElem_mem hj)).2
  exact ⟨_, _, by rw [List.getElem?_eq_getElem hj, ← of_decide_eq_true this]⟩

def Period.tracks (pd : Period) : List Track := pd.rails ++ pd.signals

def Period.All (pd : Period) (Q : Track → Prop) : Prop := ∀ t ∈ pd.tracks, Q t

def HasAt (k : Nat) (g : Seg) (pd : Period) : Prop := ∃ t, pd.signals[k]? = some t ∧ g ∈ t.segs

theorem modifyNth_eq_some {f : Track → Option Track} {l l' : List Track} {i : Nat} :
    modifyNth l i f = some l' ↔ ∃ t t', l[i]? = some t ∧ f t = some t' ∧ l' = l.set i t' := by
  induction l generalizing i l' with
  | nil => simp [modifyNth]
  | cons a r ih =>
    cases i with
    | zero => simp [modifyNth, @eq_comm _ l']
    | succ i =>
      simp only [modifyNth, Option.map_eq_some_iff, ih, List.getElem?_cons_succ, List.set_cons_succ]
      constructor
      · rintro ⟨o, ⟨t, t', h1, h2, rfl⟩, rfl⟩; exact ⟨t, t', h1, h2, rfl⟩
      · rintro ⟨t, t', h1, h2, rfl⟩; exact ⟨_, ⟨t, t', h1, h2, rfl⟩, rfl⟩

theorem withSegs_eq_some {t t' : Track} {f : List Seg → Option (List Seg)} :
    t.withSegs f = some t' ↔ ∃ segs, f t.segs = some segs ∧ t' = { t with segs := segs } := by
  simp [Track.withSegs, @eq_comm _ t']

theorem blockAll_mem {s e : Int} {l l' : List Track} (h : blockAll l s e = some l') :
    ∀ t' ∈ l', ∃ t ∈ l, ∃ segs, cutOrBlock t.segs s e .block = some segs ∧ t' = { t with segs := segs } := fun t' ht' =>
  let ⟨t, ht, e'⟩ := mapM_some_mem h t' ht'
  ⟨t, ht, withSegs_eq_some.1 e'⟩

def BlockStep (s e : Int) (pd pd' : Period) : Prop :=
  blockAll pd.rails s e = some pd'.rails ∧ blockAll pd.signals s e = some pd'.signals

namespace BlockStep
variable {s e : Int} {pd pd' : Period}

theorem length (b : BlockStep s e pd pd') : pd'.signals.length = pd.signals.length :=
  (length_eq_of_map_eq_map (mapM_eq_some_iff.1 b.2)).symm

theorem mem (b : BlockStep s e pd pd') {t' : Track} (h : t' ∈ pd'.tracks) :
    ∃ t ∈ pd.tracks, ∃ segs, cutOrBlock t.segs s e .block = some segs ∧ t' = { t with segs := segs } :=
  (List.mem_append.1 h).elim
    (fun h => let ⟨t, ht, r⟩ := blockAll_mem b.1 t' h; ⟨t, List.mem_append_left _ ht, r⟩)
    (fun h => let ⟨t, ht, r⟩ := blockAll_mem b.2 t' h; ⟨t, List.mem_append_right _ ht, r⟩)

theorem all {Q : Track → Prop} (b : BlockStep s e pd pd')
    (step : ∀ t segs, cutOrBlock t.segs s e .block = some segs → Q t → Q { t with segs := segs }) (hq : pd.All Q) : pd'.All Q :=
  fun _ ht' => let ⟨t, ht, segs, hc, e'⟩ := b.mem ht'; e' ▸ step t segs hc (hq t ht)

end BlockStep

def SigStep (op : List Seg → Option (List Seg)) (i : Nat) (pd pd' : Period) : Prop :=
  ∃ t segs, pd.signals[i]? = some t ∧ op t.segs = some segs ∧
    pd' = { pd with signals := pd.signals.set i { t with segs := segs } }

namespace SigStep
variable {op : List Seg → Option (List Seg)} {i : Nat} {pd pd' : Period}

theorem of_modifyNth {g : List Track} (h : modifyNth pd.signals i (·.withSegs op) = some g) :
    SigStep op i pd { pd with signals := g } := by
  obtain ⟨t, t', h1, h2, rfl⟩ := modifyNth_eq_some.1 h
  obtain ⟨segs, h3, rfl⟩ := withSegs_eq_some.1 h2
  exact ⟨t, segs, h1, h3, rfl⟩

theorem length (s : SigStep op i pd pd') : pd'.signals.length = pd.signals.length := by
  obtain ⟨t, segs, -, -, rfl⟩ := s
  exact List.length_set

theorem getElem?_self (s : SigStep op i pd pd') :
    ∃ t segs, pd.signals[i]? = some t ∧ op t.segs = some segs ∧ pd'.signals[i]? = some { t with segs := segs } := by
  obtain ⟨t, segs, hi, hc, rfl⟩ := s
  exact ⟨t, segs, hi, hc, List.getElem?_set_self (List.getElem?_eq_some_iff.1 hi).1⟩

theorem getElem?_ne (s : SigStep op i pd pd') {k : Nat} (hk : i ≠ k) : pd'.signals[k]? = pd.signals[k]? := by
  obtain ⟨t, segs, -, -, rfl⟩ := s
  exact List.getElem?_set_ne hk

theorem all {Q : Track → Prop} (s : SigStep op i pd pd')
    (step : ∀ t segs, op t.segs = some segs → Q t → Q { t with segs := segs }) (hq : pd.All Q) : pd'.All Q := by
  obtain ⟨t, segs, hi, hc, rfl⟩ := s
  intro u hu
  rcases List.mem_append.1 hu with hu | hu
  · exact hq u (List.mem_append_left _ hu)
  · rcases List.mem_or_eq_of_mem_set hu with hu | rfl
    · exact hq u (List.mem_append_right _ hu)
    · exact step t segs hc (hq t (List.mem_append_right _ (List.mem_of_getElem? hi)))

theorem makes {g : Seg} (s : SigStep op i pd pd') (hg : ∀ segs segs', op segs = some segs' → g ∈ segs') : HasAt i g pd' :=
  let ⟨_, _, _, hc, e⟩ := s.getElem?_self
  ⟨_, e, hg _ _ hc⟩

theorem keeps {k : Nat} {g : Seg} (s : SigStep op i pd pd')
    (keep : ∀ segs segs', op segs = some segs' → g ∈ segs → g ∈ segs') (hq : HasAt k g pd) : HasAt k g pd' := by
  obtain ⟨u, hu, hg⟩ := hq
  by_cases hk : i = k
  · subst hk
    obtain ⟨t, segs, hi, hc, e⟩ := s.getElem?_self
    cases hi.symm.trans hu
    exact ⟨_, e, keep _ _ hc hg⟩
  · exact ⟨u, (s.getElem?_ne hk).trans hu, hg⟩

end SigStep

variable {st : Stack} {m : Metal}

theorem period0_mem {span : Int} {p : Nat} {t : Track} (ht : t ∈ (period0 m span p).tracks) :
    ∃ x ∈ m.periodTracks p, t = mkTrack span x := by
  simp only [Period.tracks, period0, List.mem_append, List.mem_map, List.mem_filter] at ht
  rcases ht with ⟨x, ⟨hx, _⟩, rfl⟩ | ⟨x, ⟨hx, _⟩, rfl⟩ <;> exact ⟨x, hx, rfl⟩

theorem mkTrack_segs (span : Int) (x : TT × Int × Int) : ∀ s ∈ (mkTrack span x).segs, isGap s = false ∧ ∀ n, s.tp ≠ .wire (some n) := by
  intro s hs
  obtain rfl := List.mem_singleton.1 hs
  obtain ⟨tt, a, b⟩ := x
  cases tt <;> exact ⟨rfl, fun _ h => by cases h⟩

theorem applyBlockStep_eq_some {p : Nat} {pd pd' : Period} {i : Inst} (h : applyBlockStep st m p pd i = some pd') :
    instIntersects st m p i = false ∧ pd' = pd ∨
      instIntersects st m p i = true ∧ BlockStep (instSpan st m i).1 (instSpan st m i).2 pd pd' := by
  unfold applyBlockStep at h
  split at h
  · split at h
    · cases h
    · split at h
      · cases h
      · cases Option.some.inj h; exact .inr ⟨‹_›, ‹_›, ‹_›⟩
  · exact .inl ⟨eq_false_of_ne_true ‹_›, (Option.some.inj h).symm⟩

theorem cutStep_eq_some {pd pd' : Period} {x : Cross} (h : cutStep st m pd x = some pd') :
    ∃ loc, crossXY st x = some loc ∧
      SigStep (cutOrBlock · (along m.horiz loc - m.cutsize.tdiv 2) (along m.horiz loc + m.cutsize.tdiv 2) .cut)
        (x.track.track % pd.signals.length) pd pd' := by
  unfold cutStep at h
  split at h
  · cases h
  · split at h
    · cases h
    · split at h
      · cases h
      · cases Option.some.inj h
        exact ⟨_, ‹_›, .of_modifyNth ‹_›⟩

theorem assignTrack_eq_some {net : Bytes} {at_ : Cross} {tr : Nat} {pd pd' : Period}
    (h : assignTrack st m net at_ tr pd = some pd') :
    ∃ loc, crossXY st at_ = some loc ∧ SigStep (setNet (along m.horiz loc) net) (tr % pd.signals.length) pd pd' := by
  unfold assignTrack at h
  split at h
  · cases h
  · split at h
    · cases h
    · split at h
      · cases h
      · cases Option.some.inj h
        exact ⟨_, ‹_›, .of_modifyNth ‹_›⟩

theorem viaStep_eq_some {layer : Nat} {acc acc' : Period × List Elem} {ab : (Bytes × Cross) × Nat}
    (h : viaStep st layer m acc ab = some acc') :
    ∃ vi v pd loc, viaFrom st layer = some (vi, v) ∧ assignTrack st m ab.1.1 ab.1.2 ab.2 acc.1 = some pd ∧
      crossXY st ab.1.2 = some loc ∧ acc' = (pd, acc.2 ++ [viaElem vi v ab.1.1 loc]) := by
  unfold viaStep at h
  split at h
  · cases h
  · split at h
    · cases h
    · split at h
      · cases h
      · exact ⟨_, _, _, _, ‹_›, ‹_›, ‹_›, (Option.some.inj h).symm⟩

theorem viaFold_spec {layer : Nat} {l : List ((Bytes × Cross) × Nat)} {acc acc' : Period × List Elem}
    (h : l.foldlM (viaStep st layer m) acc = some acc') :
    ∃ vs, acc'.2 = acc.2 ++ vs ∧ vs.length = l.length ∧
      ∀ k (hk : k < l.length), ∃ vi v loc, viaFrom st layer = some (vi, v) ∧ crossXY st l[k].1.2 = some loc ∧
        vs[k]? = some (viaElem vi v l[k].1.1 loc) := by
  induction l generalizing acc with
  | nil => cases Option.some.inj h; exact ⟨[], (List.append_nil _).symm, rfl, fun k hk => absurd hk (Nat.not_lt_zero k)⟩
  | cons ab l ih =>
    rw [List.foldlM_cons] at h
    obtain ⟨acc1, e1, h⟩ := Option.bind_eq_some_iff.1 h
    obtain ⟨vi, v, pd, loc, hv, -, hloc, rfl⟩ := viaStep_eq_some e1
    obtain ⟨vs, e, hl, hvs⟩ := ih h
    refine ⟨viaElem vi v ab.1.1 loc :: vs, e.trans (List.append_assoc ..), congrArg Nat.succ hl, fun k hk => ?_⟩
    cases k with
    | zero => exact ⟨vi, v, loc, hv, hloc, rfl⟩
    | succ j => exact hvs j (Nat.lt_of_succ_lt_succ hk)

theorem sub_add_tdiv_two {s : Int} (h : s % 2 = 0) (c : Int) : c + s.tdiv 2 - (c - s.tdiv 2) = s := by
  have := Int.mul_tdiv_cancel' (Int.dvd_of_emod_eq_zero h)
  omega

theorem compilePeriod_eq_some {c : Cell} {layer : Nat} {span : Int} {p : Nat} {r : Period × List Elem}
    (h : compilePeriod st c layer m span p = some r) :
    ∃ pd1 pd2 acc3, applyBlocks st m p (layerInsts c layer) (period0 m span p) = some pd1 ∧
      applyCuts st m (periodCuts c layer m p) pd1 = some pd2 ∧
      (periodBots c layer m p).foldlM (viaStep st layer m) (pd2, []) = some acc3 ∧
      (periodTops c layer m p).foldlM (topStep st m) acc3.1 = some r.1 ∧ r.2 = acc3.2 := by
  unfold compilePeriod at h
  split at h
  · cases h
  · split at h
    · cases h
    · split at h
      · cases h
      · split at h
        · cases h
        · refine ⟨_, _, _, ‹_›, ‹_›, ‹_›, ?_⟩
          cases Option.some.inj h; exact ⟨‹_›, rfl⟩

theorem periodElems_mem (layer : Nat) (m : Metal) (r : Period × List Elem) (e : Elem) (he : e ∈ periodElems layer m r) :
    e ∈ r.2 ∨ ∃ t ∈ r.1.tracks, e ∈ trackElems layer m.horiz t := by
  simpa [periodElems, Period.tracks, or_and_right, exists_or, or_assoc] using he

/-- Well-formedness the tiling argument needs.  `validate_stack` checks `px`, `py`; `Outline::from_prim_pitches` rejects a
    negative coordinate; `cutsize ≥ 0` is checked nowhere in the Rust: an assumption. -/
structure WF (st : Stack) (c : Cell) (m : Metal) : Prop where
  px : st.px > 0
  py : st.py > 0
  cutsize : m.cutsize ≥ 0
  insts : ∀ i ∈ c.insts, i.w ≥ 0 ∧ i.h ≥ 0

/-- the spans cut or blocked in period `p`: instance extents and `cutsize` around cut crossings -/
def Requested (st : Stack) (c : Cell) (layer : Nat) (m : Metal) (p : Nat) (s e : Int) (tp : SegT) : Prop :=
  (tp = .block ∧ ∃ i ∈ layerInsts c layer, instIntersects st m p i = true ∧ s = (instSpan st m i).1 ∧ e = (instSpan st m i).2) ∨
  (tp = .cut ∧ ∃ x ∈ periodCuts c layer m p, ∃ loc, crossXY st x = some loc ∧
      s = along m.horiz loc - m.cutsize.tdiv 2 ∧ e = along m.horiz loc + m.cutsize.tdiv 2)

def blockSeg (st : Stack) (m : Metal) (i : Inst) : Seg := ⟨.block, (instSpan st m i).1, (instSpan st m i).2⟩

def NetReq (st : Stack) (c : Cell) (m : Metal) (pos : Int) (net : Bytes) : Prop :=
  ∃ a ∈ c.assigns, a.1 = net ∧ ∃ loc, crossXY st a.2 = some loc ∧ pos = along m.horiz loc

theorem instSpan_le {i : Inst} (hx : 0 < st.px) (hy : 0 < st.py) (hw : 0 ≤ i.w) (hh : 0 ≤ i.h) :
    (instSpan st m i).1 ≤ (instSpan st m i).2 := by
  have hp : 0 ≤ (if m.horiz then st.px else st.py) := by split <;> omega
  have hs : 0 ≤ (if m.horiz then i.w else i.h) := by split <;> omega
  unfold instSpan
  dsimp only
  generalize (if m.horiz = true then i.rh else i.rv) = refl
  cases refl <;> exact Int.mul_le_mul_of_nonneg_right (by omega) hp

theorem Requested.le {c : Cell} {layer p : Nat} {s e : Int} {tp : SegT} (wf : WF st c m)
    (h : Requested st c layer m p s e tp) : s ≤ e := by
  rcases h with ⟨-, i, hi, -, rfl, rfl⟩ | ⟨-, x, -, loc, -, rfl, rfl⟩
  · have ⟨hw, hh⟩ := wf.insts i (List.mem_filter.1 hi).1
    exact instSpan_le wf.px wf.py hw hh
  · have := Int.tdiv_nonneg wf.cutsize (by omega : (0 : Int) ≤ 2)
    omega

theorem periodBots_mem {c : Cell} {layer p : Nat} {ab : (Bytes × Cross) × Nat} (h : ab ∈ periodBots c layer m p) :
    ab.1 ∈ c.assigns ∧
      ∃ top bot, assignTopBot ab.1.2 = some (top, bot) ∧ inPeriod m p layer bot = true ∧ ab.2 = bot.track := by
  obtain ⟨a, ha, e⟩ := List.mem_filterMap.1 h
  split at e
  · split at e
    · cases Option.some.inj e; exact ⟨ha, _, _, ‹_›, ‹_›, rfl⟩
    · cases e
  · cases e

theorem periodTops_mem {c : Cell} {layer p : Nat} {ab : (Bytes × Cross) × Nat} (h : ab ∈ periodTops c layer m p) :
    ab.1 ∈ c.assigns := by
  obtain ⟨a, ha, e⟩ := List.mem_filterMap.1 h
  split at e
  · split at e
    · cases Option.some.inj e; exact ha
    · cases e
  · cases e

/-- the last two stages of `compilePeriod` (bottom assignments with their vias, top assignments) -/
theorem nets_inv {I : Period → Prop} {c : Cell} {layer p : Nat} {acc acc3 : Period × List Elem} {pd4 : Period}
    (hI : ∀ pd pd' k pos net, NetReq st c m pos net → SigStep (setNet pos net) k pd pd' → I pd → I pd')
    (h3 : (periodBots c layer m p).foldlM (viaStep st layer m) acc = some acc3)
    (h4 : (periodTops c layer m p).foldlM (topStep st m) acc3.1 = some pd4) (hq : I acc.1) : I pd4 := by
  have one : ∀ {pd pd'} {ab : (Bytes × Cross) × Nat}, ab.1 ∈ c.assigns →
      assignTrack st m ab.1.1 ab.1.2 ab.2 pd = some pd' → I pd → I pd' := fun hab e =>
    let ⟨loc, hloc, s⟩ := assignTrack_eq_some e
    hI _ _ _ _ _ ⟨_, hab, rfl, loc, hloc, rfl⟩ s
  refine foldlM_inv I (fun _ ab hab _ => one (periodTops_mem hab)) h4 ?_
  exact foldlM_inv (I ·.1) (fun _ ab hab _ e => by
    obtain ⟨_, _, _, _, -, ha, -, rfl⟩ := viaStep_eq_some e
    exact one (periodBots_mem hab).1 ha) h3 hq

/-- `I` through the blockages and cuts, `J` through the net assignments: two predicates, since no net is assigned until
    the cuts are done, and a fact about nets (`c08_nets`) survives no cut. -/
theorem compilePeriod_invP {I J : Period → Prop} {c : Cell} {layer : Nat} {span : Int} {p : Nat}
    (h0 : I (period0 m span p))
    (hb : ∀ pd pd' s e, Requested st c layer m p s e .block → BlockStep s e pd pd' → I pd → I pd')
    (hc : ∀ pd pd' k s e, Requested st c layer m p s e .cut → SigStep (cutOrBlock · s e .cut) k pd pd' → I pd → I pd')
    (bridge : ∀ pd, I pd → J pd)
    (hn : ∀ pd pd' k pos net, NetReq st c m pos net → SigStep (setNet pos net) k pd pd' → J pd → J pd')
    {r : Period × List Elem} (h : compilePeriod st c layer m span p = some r) : J r.1 := by
  obtain ⟨pd1, pd2, acc3, h1, h2, h3, h4, -⟩ := compilePeriod_eq_some h
  have q1 : I pd1 := foldlM_inv I (fun pd i hi pd' e hq => by
    rcases applyBlockStep_eq_some e with ⟨-, rfl⟩ | ⟨hint, b⟩
    · exact hq
    · exact hb _ _ _ _ (.inl ⟨rfl, i, hi, hint, rfl, rfl⟩) b hq) h1 h0
  have q2 : I pd2 := foldlM_inv I (fun _ x hx _ e =>
    let ⟨loc, hloc, s⟩ := cutStep_eq_some e
    hc _ _ _ _ _ (.inr ⟨rfl, x, hx, loc, hloc, rfl, rfl⟩) s) h2 q1
  exact nets_inv hn h3 h4 (bridge _ q2)

theorem compilePeriod_inv {Q1 Q2 : Track → Prop} {c : Cell} {layer : Nat} {span : Int} {p : Nat}
    (h0 : (period0 m span p).All Q1)
    (hQ1 : ∀ t segs s e tp, Requested st c layer m p s e tp → cutOrBlock t.segs s e tp = some segs → Q1 t → Q1 { t with segs := segs })
    (bridge : ∀ t, Q1 t → Q2 t)
    (hQ2 : ∀ t segs pos net, NetReq st c m pos net → setNet pos net t.segs = some segs → Q2 t → Q2 { t with segs := segs })
    {r : Period × List Elem} (h : compilePeriod st c layer m span p = some r) : r.1.All Q2 :=
  compilePeriod_invP h0 (fun _ _ s e hr b => b.all fun t segs => hQ1 t segs s e _ hr)
    (fun _ _ _ s e hr g => g.all fun t segs => hQ1 t segs s e _ hr) (fun _ hq t ht => bridge t (hq t ht))
    (fun _ _ _ pos net hr g => g.all fun t segs => hQ2 t segs pos net hr) h

theorem compilePeriod_length {c : Cell} {layer : Nat} {span : Int} {p : Nat} {r : Period × List Elem}
    (h : compilePeriod st c layer m span p = some r) : r.1.signals.length = (period0 m span p).signals.length :=
  compilePeriod_invP (I := (·.signals.length = _)) rfl (fun _ _ _ _ _ b => b.length.trans)
    (fun _ _ _ _ _ _ g => g.length.trans) (fun _ hq => hq) (fun _ _ _ _ _ _ g => g.length.trans) h

end L21.Tetris
