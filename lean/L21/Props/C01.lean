import L21.Proofs.GdsBytes
import L21.Proofs.GdsLazy
/-
C01 — GDSII write-then-read returns the library that was written: `c01_roundtrip` (bytes) over `c01_tree_roundtrip`
(records), what the writer refuses, and `c01_lazy_reader_is_model`: the same for the reader as the code runs it.
-/
namespace L21.Gds
open L21

/-- which strings survive NUL padding: odd length, empty, or not ending in NUL -/
def RoundTrippable (s : Bytes) : Prop := s.length % 2 = 1 ∨ s = [] ∨ s.getLast? ≠ some 0

/-- the writer refuses exactly the strings that would not survive -/
theorem c01_string_written_iff (s : Bytes) :
    (∃ body, payloadBytes .str (.str s) = some body) ↔ RoundTrippable s := by
  constructor
  · rintro ⟨body, h⟩
    rcases payloadBytes_str_eq_some_iff.1 h with ⟨h1, _⟩ | ⟨_, hl, _⟩
    · exact .inl h1
    · exact .inr (.inr hl)
  · intro h
    by_cases h1 : s.length % 2 = 1
    · exact ⟨_, payloadBytes_str_eq_some_iff.2 (.inl ⟨h1, rfl⟩)⟩
    · refine ⟨_, payloadBytes_str_eq_some_iff.2 (.inr ⟨by omega, ?_, rfl⟩)⟩
      rcases h with h | rfl | h
      · exact absurd h h1
      · nofun
      · exact h

/-- a record whose payload does not fit the 16-bit length field is an error, never a corrupt stream -/
theorem c01_record_too_long (r : Rec) (dt : Nat) (ls : LenSpec) (pk : PK) (h : lookupWrite r.rt = some (dt, ls, pk))
    (hlen : 65535 < payloadLen ls r.pl + 4) : encRecord r = .err := by
  cases he : encRecord r with
  | err => rfl
  | ok bs =>
    obtain ⟨_, _, _, _, hl, _, hle, _⟩ := encRecord_ok_iff.1 he
    rw [h] at hl; cases hl; omega

/-- "either fails with an error or …": the writer has no third outcome -/
theorem c01_total (l : Library) : (∃ bs, enc l = .ok bs) ∨ enc l = .err := (enc l).ok_or_err

/-- the reals of a library: units, magnifications, angles -/
def stransReals : Option Strans → List Nat
  | none => []
  | some s => s.mag.toList ++ s.angle.toList
def elemReals : Elem → List Nat
  | .sref _ _ st _ => stransReals st
  | .aref _ _ _ _ st _ => stransReals st
  | .text _ _ _ _ _ _ _ st _ => stransReals st
  | _ => []
def libReals (l : Library) : List Nat :=
  [l.units.1, l.units.2] ++ l.structs.flatMap (fun s => s.elems.flatMap elemReals)

/-- The property without the shape and integer-range hypotheses of `c01_roundtrip`; not proved, and it does not hold:
    a boundary with an odd number of coordinates is written, and then refused by the reader. -/
def c01_roundtrip_statement : Prop :=
  ∀ (l : Library) (bs : Bytes), enc l = .ok bs → (∀ x ∈ libReals l, GdsFloat.InRange x) →
    ∃ l', dec bs = .ok l' ∧ libRecs l' = (libRecs l).map (fun r =>
      match r.pl with
      | .reals xs => ⟨r.rt, .reals (xs.map GdsFloat.canonZero)⟩
      | _ => r)

def demoLib : Library :=
  ⟨[108], 3, [1, 2, 3, 4, 5, 6, 7, 8, 9, 10, 11, 12], (0x3F50624DD2F1A9FC, 0x3E112E0BE826D695),
    [⟨[97], [0, 0, 0, 0, 0, 0, 0, 0, 0, 0, 0, 0],
      [.boundary 1 2 [0, 0, 5, 0, 5, 5, 0, 0] ⟨some (0, 1), some 7, [⟨1, [120]⟩, ⟨2, []⟩]⟩,
       .path 3 4 [0, 0, 9, 0] (some 2) none (some (-1)) none ⟨none, none, []⟩,
       .sref [98] [1, 2] (some ⟨true, false, true, some 0x4000000000000000, none⟩) ⟨none, none, []⟩,
       .aref [98] [0, 0, 10, 0, 0, 20] 2 3 none ⟨none, some 1, []⟩,
       .text [104, 105] 5 6 [3, 4] (some (0, 5)) none (some 4) (some ⟨false, true, false, none, some 0x4056800000000000⟩) ⟨none, none, [⟨9, [1]⟩]⟩,
       .node 1 1 [0, 0] ⟨none, none, []⟩,
       .box 1 1 [0, 0, 1, 0, 1, 1, 0, 1, 0, 0] ⟨none, none, []⟩]⟩,
     ⟨[98], [0, 0, 0, 0, 0, 0, 0, 0, 0, 0, 0, 0], []⟩]⟩
example : libOk demoLib = true := by decide
example : parseLib (libRecs demoLib) = .ok demoLib := by decide +kernel

/-- The property at byte level; reals compared as doubles (−0.0 is read as +0.0).  `recOkB`: every field in the range of
    its Rust type (i16 / i32, flag bytes, UTF-8, doubles in 16^-65 ≤ |x| < 16^63 or zero). -/
theorem c01_roundtrip (l : Library) (bs : Bytes) (h : enc l = .ok bs) (hshape : libOk l = true)
    (hrange : (libRecs l).all recOkB = true) : dec bs = .ok (canonLib l) :=
  dec_enc l bs h hshape (fun r hr => recOk_of_B r (List.all_eq_true.1 hrange r hr))

example : (libRecs demoLib).all recOkB = true := by decide +kernel
example : ∃ bs, enc demoLib = .ok bs ∧ dec bs = .ok (canonLib demoLib) := by
  cases h : enc demoLib with
  | ok bs => exact ⟨bs, rfl, c01_roundtrip demoLib bs h (by decide) (by decide +kernel)⟩
  | err => exact absurd h (by decide +kernel)

/-- gds21's `GdsParser` reads lazily (`Model/GdsLazy`): same library or error as `dec` for every byte string, so C01, C03,
    C10 hold for the reader as the code runs it. -/
theorem c01_lazy_reader_is_model (bs : Bytes) : decLazy bs = dec bs := decLazy_eq_dec bs

theorem c01_roundtrip_lazy (l : Library) (bs : Bytes) (h : enc l = .ok bs) (hshape : libOk l = true)
    (hrange : (libRecs l).all recOkB = true) : decLazy bs = .ok (canonLib l) := by
  rw [c01_lazy_reader_is_model]; exact c01_roundtrip l bs h hshape hrange

/-! non-vacuity: the lazy reader itself, evaluated on a concrete stream (HEADER, BGNLIB, LIBNAME "a",
    UNITS, ENDLIB) and on a stream cut before ENDLIB -/
example : decLazy [0,6,0,2,0,3,0,28,1,2,0,0,0,0,0,0,0,0,0,0,0,0,0,0,0,0,0,0,0,0,0,0,0,0,0,6,2,6,97,0,0,20,3,5,62,65,137,55,75,198,167,240,57,68,184,47,160,155,90,84,0,4,4,0]
    = .ok ⟨[0x61], 3, [0,0,0,0,0,0,0,0,0,0,0,0], (0x3f50624dd2f1a9fc, 0x3e112e0be826d695), []⟩ := by decide +kernel
example : decLazy [0,6,0,2,0,3, 0,28,1,2] = .err := by decide

end L21.Gds
