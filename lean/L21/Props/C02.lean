import L21.Proofs.Gds
import L21.Proofs.GdsGrammar
/-
C02 — Bytes written for a library are a well-formed GDSII stream with that content.

The record tables are regenerated from gds21's source on every run (`L21/Gen/GdsTables.lean`) and the theorems below
re-checked against them.  `Spec.gdsSpecTable` is transcribed from the GDSII manual.
-/
namespace L21.Gds
open L21

theorem c02_numbering : Gen.gdsRecTypes = Spec.gdsSpecNumbers := rfl
theorem c02_datatypes : Gen.gdsDataTypes = Spec.gdsSpecDataTypes := rfl

/-- every (record type, data type, size rule) the writer uses is the one the manual assigns -/
theorem c02_table_pairs :
    Gen.gdsWriteTable.all (fun r => Spec.gdsSpecTable.any (fun s => s.1 == r.1 && s.2.2.1 == r.2.1 && s.2.2.2 == r.2.2.1)) = true := by
  decide +kernel

/-- Framing of one record: four header bytes (big-endian total length, record type, data type), then the payload; the
    length field equals the number of bytes present; the (record, data type, size rule) triple is the manual's. -/
theorem c02_framing_record (r : Rec) (bs : Bytes) (h : encRecord r = .ok bs) :
    ∃ dt ls body, bs = [bs.length / 256, bs.length % 256, r.rt, dt] ++ body ∧
      bs.length = 4 + body.length ∧ bs.length % 2 = 0 ∧ 4 ≤ bs.length ∧ bs.length ≤ 65535 ∧
      Spec.gdsSpecTable.any (fun s => s.1 == r.rt && s.2.2.1 == dt && s.2.2.2 == ls) = true := by
  obtain ⟨dt, ls, pk, body, hl, hf, hlen, hb, rfl⟩ := encRecord_ok_iff.1 h
  have hspec := List.all_eq_true.1 c02_table_pairs _ (lookupWrite_mem hl)
  obtain ⟨hbl, heven⟩ := payloadBytes_length (lookupWrite_layoutOk hl) hf hb
  have hlen' : ([(payloadLen ls r.pl + 4) / 256, (payloadLen ls r.pl + 4) % 256, r.rt, dt] ++ body).length = payloadLen ls r.pl + 4 := by
    simp [hbl]
  exact ⟨dt, ls, body, by rw [hlen'], by rw [hlen', hbl, Nat.add_comm], by omega, by omega, by omega, hspec⟩

/-- the stream is the concatenation of its records' frames -/
theorem c02_framing (rs : List Rec) (bs : Bytes) (h : encRecords rs = .ok bs) :
    ∃ frames : List Bytes, bs = frames.flatten ∧ frames.length = rs.length ∧
      ∀ p ∈ rs.zip frames, encRecord p.1 = .ok p.2 := by
  induction rs generalizing bs with
  | nil => simp [encRecords] at h; subst h; exact ⟨[], rfl, rfl, by simp⟩
  | cons r rest ih =>
    obtain ⟨a, b, h1, h2, rfl⟩ := encRecords_cons_ok.1 h
    obtain ⟨fr, e, hl, hall⟩ := ih b h2
    refine ⟨a :: fr, by simp [e], by simp [hl], ?_⟩
    intro p hp
    simp only [List.zip_cons_cons, List.mem_cons] at hp
    rcases hp with rfl | hp
    · exact h1
    · exact hall p hp

/-- The stream ends with the end-of-library record `00 04 04 00`. -/
theorem c02_ends_with_endlib (l : Library) (bs : Bytes) (h : enc l = .ok bs) :
    ∃ pre, bs = pre ++ [0, 4, 4, 0] := by
  obtain ⟨x, y, _, hy, rfl⟩ := encRecords_append h
  cases hy.symm.trans (by decide : encRecords [⟨rEndLib, .none⟩] = .ok [0, 4, 4, 0])
  exact ⟨x, rfl⟩

/-- For every library the writer's record-type sequence is a sentence of the manual's BNF (`Spec.gdsGrammar`, transcribed
    from the manual, not from the sources). -/
theorem c02_grammar (l : Library) : Spec.gdsGrammar ((libRecs l).map (·.rt)) = true :=
  grammar_libRecs l

example : Spec.gdsGrammar [0, 1, 2, 3, 5, 6, 9, 13, 14, 16, 48, 49, 17, 7, 4] = false := by decide  -- extensions after XY: rejected
example : Spec.gdsGrammar [0, 1, 2, 3, 5, 6, 9, 13, 14, 48, 49, 16, 17, 7, 4] = true := by decide

end L21.Gds
