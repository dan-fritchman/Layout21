import L21.Proofs.GdsLazy
/-
C03 — Every grammar-conformant GDSII stream is read to exactly the content it encodes (model-level theorems; the
reference encoder written from the grammar lives in the harness, `harness/src/props/gds.rs::ref_encode`, and drives model
and code with the same bytes).  Here: padding after ENDLIB is not looked at; the unsupported library-level records are errors.
-/
namespace L21.Gds
open L21

theorem tokenize_fuel_ge (bs : Bytes) : ∀ (k : Nat), tokenize (bs.length / 4 + 1 + k) bs = tokenize (bs.length / 4 + 1) bs := by
  intro k
  rw [tokenize_eq _ bs (Nat.le_add_right _ k), tokenize_eq _ bs (Nat.le_refl _)]

/-- bytes after ENDLIB (tape-block padding, any length and content) do not change what is read -/
theorem c03_trailing (bs t : Bytes) (l : Library) (h : dec bs = .ok l) : dec (bs ++ t) = .ok l := by
  rw [dec_ok_iff] at h ⊢
  rwa [decodable_append bs t h.1]

theorem c03_trailing_lazy (bs t : Bytes) (l : Library) (h : decLazy bs = .ok l) : decLazy (bs ++ t) = .ok l := by
  rw [decLazy_eq_dec] at h ⊢; exact c03_trailing bs t l h

/-- Library-level features documented as unsupported (LIBDIRSIZE, SRFNAME, LIBSECUR, REFLIBS,
    FONTS, ATTRTABLE, GENERATIONS, FORMAT) are reported as errors, never misread. -/
theorem c03_unsupported (rt : Nat) (hrt : rt ∈ [57, 58, 59, 31, 32, 35, 34, 54]) (pl : Payload)
    (v : Int) (d : List Int) (fuel : Nat) (lb : LB) (rest : List Rec) :
    parseLibBody v d fuel lb (⟨rt, pl⟩ :: rest) = .err :=
  parseLibBody_other rt pl (by simp only [List.mem_cons, List.mem_nil_iff, or_false] at hrt; omega) v d fuel lb rest

end L21.Gds
