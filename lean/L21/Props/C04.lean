import L21.Proofs.LefEnum
/-
C04 — Reading a LEF file yields every statement in it, with exact values (keyword / enum layer).

Every keyword and every enumerated value the reader recognises comes from one `enumstr!` table in
lef21/src/data.rs; `L21.Gen.lefEnums` is regenerated from those tables on every run.  The reader upper-cases the token
(`to_ascii_uppercase`) and looks it up with a first-match `match`; the writer prints `to_str`.  For every entry of every
regenerated table:

* `c04_enum_strings_canonical`: the table string is non-empty and consists of upper-case ASCII letters and digits only,
  so upper-casing a token can produce it and it lexes as one name;
* `c04_enum_no_shadowing`: the first-match lookup maps the string back to its variant (`from_str (to_str v) = v`) — an
  entry added with a duplicated string would silently attach statements to the wrong variant.
-/
namespace L21.LefEnum
open L21.Gen

theorem c04_enum_strings_canonical : ∀ t ∈ lefEnums, ∀ p ∈ t.2,
    p.2.toList ≠ [] ∧ p.2.toList.all canonicalChar = true := by
  intro t ht p hp
  obtain ⟨⟨c, body, e, _⟩, h2, _⟩ := entry_ok ht hp
  exact ⟨by rw [e]; exact List.cons_ne_nil _ _, h2⟩

theorem c04_enum_no_shadowing : ∀ t ∈ lefEnums, ∀ p ∈ t.2,
    toStr t.2 p.1 = some p.2 ∧ fromStr t.2 p.2 = some p.1 :=
  fun _ ht _ hp => ⟨(entry_ok ht hp).2.2.2, (entry_ok ht hp).2.2.1⟩

/-- Keywords and enumerated values are matched case-insensitively: any mixed-case spelling of a table string is read as
    the variant that string belongs to. -/
theorem c04_case_insensitive : ∀ t ∈ lefEnums, ∀ p ∈ t.2, ∀ (choice : List Bool),
    parse t.2 (caseVariant choice p.2.toList) = some p.1 :=
  fun _ ht _ hp choice => parse_entry ht hp (upper_caseVariant _ choice (entry_ok ht hp).2.1)

/-- However a legal value is spelled — `2000`, `2000.0`, `2000.000` — it is accepted and read as
    exactly that integer. -/
theorem c04_dbu (v : Int) (k : Nat) (hv : v ∈ legalDbu) : dbuTryNew ⟨v * 10 ^ k, k⟩ = some v := by
  unfold dbuTryNew
  have hp : (10 : Int) ^ k ≠ 0 := by exact Int.pow_ne_zero (by decide)
  simp only [Int.mul_emod_left, ne_eq, not_true_eq_false, if_false, Int.mul_ediv_cancel _ hp]
  simp [hv]

example : dbuTryNew ⟨20000, 1⟩ = some 2000 := by decide
example : dbuTryNew ⟨2000, 0⟩ = some 2000 := by decide
example : dbuTryNew ⟨20005, 1⟩ = none := by decide
example : dbuTryNew ⟨3000, 0⟩ = none := by decide
example : parse (lefEnums.lookup "LefOnOff" |>.getD []) "oN".toList = some "On" := by decide +kernel
example : lefEnums.length = 17 := by decide

end L21.LefEnum
