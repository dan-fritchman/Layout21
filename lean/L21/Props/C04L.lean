import L21.Proofs.LefDec
import L21.Proofs.LefLexRT
/-
C04, the lexical level: how a number is spelled and how the tokens are laid out do not matter.

Numbers — every number is kept as the exact decimal written, however it is spelled (leading sign, leading dot, trailing
zeros): `c04_trailing_zeros` here; `c04_decimal_every_spelling` and `c04_leading_zeros` in `Proofs/LefDec.lean`, where
C05's `Display` round trip rests on them.

Layout (also C05's step from text to tokens) — for every `Layout` of a token sequence (`Proofs/LefLexRT.lean`: any white
space and `#` comments between the tokens) the lexer model (tied to `LefLexer` by the `lef.lex` correspondence, to
`from_str` by `lef.parse`) returns exactly the laid-out tokens, so what the reader returns depends on the token sequence
alone.
-/
namespace L21.Lef
open L21.LefLex L21.LefEnum L21.LefLexRT

/-- trailing zeros change the scale, not the value: mantissa × 10^k at scale + k -/
theorem c04_trailing_zeros (ds : List Char) (k : Nat) : dval (ds ++ List.replicate k '0') = dval ds * 10 ^ k := by
  induction k with
  | zero => simp
  | succ k ih =>
    have : List.replicate (k + 1) '0' = List.replicate k '0' ++ ['0'] := by simp [List.replicate_succ']
    rw [this, ← List.append_assoc]
    simp only [dval, List.foldl_append, List.foldl_cons, List.foldl_nil] at ih ⊢
    rw [ih]
    simp [dig, Nat.pow_succ, Nat.mul_assoc]

/-- non-vacuity -/
example : parseDecText "+.50".toList = some ⟨50, 2⟩ ∧ parseDecText "-007".toList = some ⟨-7, 0⟩ ∧
    parseDecText "12.3400".toList = some ⟨123400, 4⟩ := by decide

/-- every layout lexes to its tokens -/
theorem c04_layout_tokens (L : Layout) (h : L.ok = true) : tokens L.text = some (L.items.map (·.1)) :=
  tokens_layout L h

/-- white space and comments are immaterial: two layouts of the same token sequence are read to the same result (the same
    library, or both refused) -/
theorem c04_layout_independent (L1 L2 : Layout) (h1 : L1.ok = true) (h2 : L2.ok = true)
    (he : L1.items.map (·.1) = L2.items.map (·.1)) : parse L1.text = parse L2.text :=
  parse_layout_indep L1 L2 h1 h2 he

/-- the reader on a laid-out text = the statement-level reader on the tokens -/
theorem c04_parse_layout (L : Layout) (h : L.ok = true) :
    parse L.text = libBody ((L.items.map (·.1)).length + 1) ⟨58, 1⟩ {} (L.items.map (·.1)) :=
  parse_layout L h

/-! non-vacuity: `VERSION 5.8 ;` on one line, and spread over lines with a comment, a tab and a no-break space -/
def lA : Layout := ⟨⟨[], []⟩, [(⟨.name, "VERSION".toList⟩, ⟨[' '], []⟩), (⟨.number, "5.8".toList⟩, ⟨[' '], []⟩), (⟨.semi, [';']⟩, ⟨['\n'], []⟩)]⟩
def lB : Layout := ⟨⟨['\n', '\t'], [("a comment ; VERSION 1".toList, [' ', ' '])]⟩,
  [(⟨.name, "VERSION".toList⟩, ⟨['\n'], [("x".toList, [])]⟩), (⟨.number, "5.8".toList⟩, ⟨[' '], []⟩), (⟨.semi, [';']⟩, ⟨[], []⟩)]⟩
example : lA.ok = true ∧ lB.ok = true ∧ lA.items.map (·.1) = lB.items.map (·.1) := by decide +kernel
example : lA.text = "VERSION 5.8 ;\n".toList := by decide +kernel
example : lB.text = "\n\t#a comment ; VERSION 1\n  VERSION\n#x\n5.8 ;".toList := by decide +kernel

end L21.Lef
