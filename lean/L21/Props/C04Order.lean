import L21.Proofs.LefStmtLib
import L21.Proofs.LefLexRT
/-
C04 — statement order inside PIN and MACRO blocks and at library level (reader model).

LEF fixes no order for the statements of a PIN or a MACRO, and an independent renderer may emit them in any order,
repeat a scalar statement, and interleave the list-valued ones (PORT, PROPERTY, ANTENNA*, PIN) with the others.
Every admissible sequence is read to the fold of the per-statement updates (`c04_x_any_order`, `Proofs/LefStmt*.lean`).
Here, for x = pin, macro, lib: what that fold is, field by field; which sequences are read back to a given object
(`c04_x_reads_back`), the writer's order among them (whence C05's write → read); the same at text level, for every
`LefLexRT.Layout`.  Pins inside a macro are themselves statement sequences, so the levels compose.
-/
namespace L21.Lef
open L21.LefLex L21.LefEnum L21.Gen

/-- how a repeated scalar statement resolves -/
def lastO {α : Type} (l : List α) (d : Option α) : Option α := l.foldl (fun _ x => some x) d

@[simp] theorem lastO_nil {α : Type} (d : Option α) : lastO [] d = d := rfl
@[simp] theorem lastO_cons {α : Type} (x : α) (l : List α) (d : Option α) : lastO (x :: l) d = lastO l (some x) := rfl

@[simp] theorem lastO_toList {α : Type} (o : Option α) : lastO o.toList none = o := by cases o <;> rfl

theorem length_cons_bne {α : Type} (a : α) (l : List α) : ((a :: l).length != 0) = true := rfl
theorem flag_length (b : Bool) : ((if b = true then [()] else []).length != 0) = b := by cases b <;> rfl

@[simp] theorem filterMap_some' {α : Type} (l : List α) : l.filterMap (fun x => some x) = l := List.filterMap_some

/-- the fold, field by field: scalars hold the last statement of their kind, lists hold theirs in order -/
def collectP (p : Pin) (ss : List PStmt) : Pin :=
  { name := p.name
    ports := p.ports ++ ss.filterMap PStmt.port?
    direction := lastO (ss.filterMap PStmt.dir?) p.direction
    use_ := lastO (ss.filterMap PStmt.use?) p.use_
    shape := lastO (ss.filterMap PStmt.shape?) p.shape
    antennaModel := lastO (ss.filterMap PStmt.amodel?) p.antennaModel
    antennaAttrs := p.antennaAttrs ++ ss.filterMap PStmt.antenna?
    taperRule := lastO (ss.filterMap PStmt.taper?) p.taperRule
    supplySensitivity := lastO (ss.filterMap PStmt.supply?) p.supplySensitivity
    groundSensitivity := lastO (ss.filterMap PStmt.ground?) p.groundSensitivity
    mustJoin := lastO (ss.filterMap PStmt.mustjoin?) p.mustJoin
    netExpr := lastO (ss.filterMap PStmt.netexpr?) p.netExpr
    properties := p.properties ++ ss.filterMap PStmt.prop? }

theorem c04_pin_fold_fields : ∀ (ss : List PStmt) (p : Pin), ss.foldl applyP p = collectP p ss := by
  intro ss
  induction ss with
  | nil => intro p; simp [collectP]
  | cons s r ih =>
    intro p
    rw [List.foldl_cons, ih]
    cases s <;> simp only [collectP, applyP, List.filterMap_cons, PStmt.dir?, PStmt.use?, PStmt.shape?, PStmt.amodel?, PStmt.taper?,
      PStmt.supply?, PStmt.ground?, PStmt.mustjoin?, PStmt.netexpr?, PStmt.port?, PStmt.prop?, PStmt.antenna?, lastO_cons,
      List.append_assoc, List.cons_append, List.nil_append]

def OnceP (ss : List PStmt) : Prop :=
  (ss.filterMap PStmt.dir?).length ≤ 1 ∧ (ss.filterMap PStmt.use?).length ≤ 1 ∧ (ss.filterMap PStmt.shape?).length ≤ 1 ∧
  (ss.filterMap PStmt.amodel?).length ≤ 1 ∧ (ss.filterMap PStmt.taper?).length ≤ 1 ∧ (ss.filterMap PStmt.supply?).length ≤ 1 ∧
  (ss.filterMap PStmt.ground?).length ≤ 1 ∧ (ss.filterMap PStmt.mustjoin?).length ≤ 1 ∧ (ss.filterMap PStmt.netexpr?).length ≤ 1

def SameListsP (ss ss' : List PStmt) : Prop :=
  ss.filterMap PStmt.port? = ss'.filterMap PStmt.port? ∧ ss.filterMap PStmt.prop? = ss'.filterMap PStmt.prop? ∧
  ss.filterMap PStmt.antenna? = ss'.filterMap PStmt.antenna?

theorem c04_pin_fold_order_free (ss ss' : List PStmt) (p : Pin) (hp : ss.Perm ss') (hl : SameListsP ss ss') (ho : OnceP ss) :
    ss.foldl applyP p = ss'.foldl applyP p := by
  rw [c04_pin_fold_fields, c04_pin_fold_fields]
  obtain ⟨l1, l2, l3⟩ := hl
  obtain ⟨o1, o2, o3, o4, o5, o6, o7, o8, o9⟩ := ho
  unfold collectP
  rw [l1, l2, l3, perm_short_eq (hp.filterMap PStmt.dir?) o1, perm_short_eq (hp.filterMap PStmt.use?) o2,
    perm_short_eq (hp.filterMap PStmt.shape?) o3, perm_short_eq (hp.filterMap PStmt.amodel?) o4,
    perm_short_eq (hp.filterMap PStmt.taper?) o5, perm_short_eq (hp.filterMap PStmt.supply?) o6,
    perm_short_eq (hp.filterMap PStmt.ground?) o7, perm_short_eq (hp.filterMap PStmt.mustjoin?) o8,
    perm_short_eq (hp.filterMap PStmt.netexpr?) o9]

/-- Order freedom for PIN blocks: any permutation of the statements that keeps PORTs, PROPERTYs and ANTENNA* statements
    in their relative order, scalars occurring once, is read to the same pin. -/
theorem c04_pin_order_free (n : Str) (ss ss' : List PStmt) (T : List Tok) (h : ss.all pstmtOk = true)
    (hp : ss.Perm ss') (hl : SameListsP ss ss') (ho : OnceP ss) :
    pin (wPinStmts n ss ++ T) = pin (wPinStmts n ss' ++ T) := by
  have h' : ss'.all pstmtOk = true := by
    rw [List.all_eq_true] at h ⊢
    intro x hx; exact h x (hp.mem_iff.2 hx)
  rw [c04_pin_any_order n ss T h, c04_pin_any_order n ss' T h', c04_pin_fold_order_free ss ss' _ hp hl ho]

/-- as `collectP`; OBS is overwritten; the flag FIXEDMASK is "the list of its occurrences is not empty": set once, it stays -/
def collectM (m : Macro) (ss : List MStmt) : Macro :=
  { name := m.name
    pins := m.pins ++ ss.filterMap MStmt.pin?
    obs := (lastO (ss.filterMap MStmt.obs?) (some m.obs)).getD []
    cls := lastO (ss.filterMap MStmt.cls?) m.cls
    foreign := lastO (ss.filterMap MStmt.foreign?) m.foreign
    origin := lastO (ss.filterMap MStmt.origin?) m.origin
    size := lastO (ss.filterMap MStmt.size?) m.size
    symmetry := lastO (ss.filterMap MStmt.symmetry?) m.symmetry
    site := lastO (ss.filterMap MStmt.site?) m.site
    source := lastO (ss.filterMap MStmt.source?) m.source
    eeq := lastO (ss.filterMap MStmt.eeq?) m.eeq
    fixedMask := m.fixedMask || (ss.filterMap MStmt.fixedMask?).length != 0
    properties := m.properties ++ ss.filterMap MStmt.prop?
    density := lastO (ss.filterMap MStmt.density?) m.density }

theorem c04_macro_fold_fields : ∀ (ss : List MStmt) (m : Macro), ss.foldl applyM m = collectM m ss := by
  intro ss
  induction ss with
  | nil => intro m; simp [collectM]
  | cons s r ih =>
    intro m
    rw [List.foldl_cons, ih]
    cases s <;> simp only [collectM, applyM, List.filterMap_cons, MStmt.cls?, MStmt.fixedMask?, MStmt.foreign?, MStmt.origin?,
      MStmt.source?, MStmt.eeq?, MStmt.size?, MStmt.symmetry?, MStmt.site?, MStmt.obs?, MStmt.density?, MStmt.pin?, MStmt.prop?,
      lastO_cons, List.append_assoc, List.cons_append, List.nil_append, length_cons_bne, Bool.or_true, Bool.true_or]

def OnceM (ss : List MStmt) : Prop :=
  (ss.filterMap MStmt.cls?).length ≤ 1 ∧ (ss.filterMap MStmt.foreign?).length ≤ 1 ∧ (ss.filterMap MStmt.origin?).length ≤ 1 ∧
  (ss.filterMap MStmt.source?).length ≤ 1 ∧ (ss.filterMap MStmt.eeq?).length ≤ 1 ∧ (ss.filterMap MStmt.size?).length ≤ 1 ∧
  (ss.filterMap MStmt.symmetry?).length ≤ 1 ∧ (ss.filterMap MStmt.site?).length ≤ 1 ∧ (ss.filterMap MStmt.obs?).length ≤ 1 ∧
  (ss.filterMap MStmt.density?).length ≤ 1

def SameListsM (ss ss' : List MStmt) : Prop :=
  ss.filterMap MStmt.pin? = ss'.filterMap MStmt.pin? ∧ ss.filterMap MStmt.prop? = ss'.filterMap MStmt.prop?

theorem c04_macro_fold_order_free (ss ss' : List MStmt) (m : Macro) (hp : ss.Perm ss') (hl : SameListsM ss ss') (ho : OnceM ss) :
    ss.foldl applyM m = ss'.foldl applyM m := by
  rw [c04_macro_fold_fields, c04_macro_fold_fields]
  obtain ⟨l1, l2⟩ := hl
  obtain ⟨o1, o2, o3, o4, o5, o6, o7, o8, o9, o10⟩ := ho
  unfold collectM
  rw [l1, l2, perm_short_eq (hp.filterMap MStmt.cls?) o1, perm_short_eq (hp.filterMap MStmt.foreign?) o2,
    perm_short_eq (hp.filterMap MStmt.origin?) o3, perm_short_eq (hp.filterMap MStmt.source?) o4,
    perm_short_eq (hp.filterMap MStmt.eeq?) o5, perm_short_eq (hp.filterMap MStmt.size?) o6,
    perm_short_eq (hp.filterMap MStmt.symmetry?) o7, perm_short_eq (hp.filterMap MStmt.site?) o8,
    perm_short_eq (hp.filterMap MStmt.obs?) o9, perm_short_eq (hp.filterMap MStmt.density?) o10,
    (hp.filterMap MStmt.fixedMask?).length_eq]

/-- Order freedom for MACRO blocks: any permutation that keeps PINs and PROPERTYs in their relative order (scalars once;
    FIXEDMASK may repeat) is read to the same macro.  A pin statement is compared through the pin it is read to
    (`MStmt.pin?`), so the statements inside each pin may be permuted as well. -/
theorem c04_macro_order_free (ver : Dec) (n : Str) (ss ss' : List MStmt) (T : List Tok) (h : ss.all (mstmtOk ver) = true)
    (h' : ss'.all (mstmtOk ver) = true) (hp : ss.Perm ss') (hl : SameListsM ss ss') (ho : OnceM ss) :
    macro_ ver (wMacroStmts n ss ++ T) = macro_ ver (wMacroStmts n ss' ++ T) := by
  rw [c04_macro_any_order ver n ss T h, c04_macro_any_order ver n ss' T h', c04_macro_fold_order_free ss ss' _ hp hl ho]

/-! `RendersP ss p`: `ss` contains exactly the statements of `p` — every list-valued field's entries in their order, every
present scalar exactly once, nothing else — in any interleaving: what an independent LEF renderer may emit for `p`.
The writer's order is one (`rendersP_canon`, `rendersM_canon`), so the hypothesis is satisfiable for every object. -/

def RendersP (ss : List PStmt) (p : Pin) : Prop :=
  ss.filterMap PStmt.port? = p.ports ∧ ss.filterMap PStmt.prop? = p.properties ∧ ss.filterMap PStmt.antenna? = p.antennaAttrs ∧
  ss.filterMap PStmt.dir? = p.direction.toList ∧ ss.filterMap PStmt.use? = p.use_.toList ∧ ss.filterMap PStmt.shape? = p.shape.toList ∧
  ss.filterMap PStmt.amodel? = p.antennaModel.toList ∧ ss.filterMap PStmt.taper? = p.taperRule.toList ∧
  ss.filterMap PStmt.supply? = p.supplySensitivity.toList ∧ ss.filterMap PStmt.ground? = p.groundSensitivity.toList ∧
  ss.filterMap PStmt.mustjoin? = p.mustJoin.toList ∧ ss.filterMap PStmt.netexpr? = p.netExpr.toList

theorem c04_pin_renders (p : Pin) (ss : List PStmt) (h : RendersP ss p) : ss.foldl applyP (emptyPin p.name) = p := by
  rw [c04_pin_fold_fields]
  unfold RendersP at h
  simp only [collectP, h, emptyPin, lastO_toList, List.nil_append]

theorem c04_pin_reads_back (p : Pin) (ss : List PStmt) (T : List Tok) (hok : ss.all pstmtOk = true) (h : RendersP ss p) :
    pin (wPinStmts p.name ss ++ T) = some (p, T) := by
  rw [c04_pin_any_order p.name ss T hok, c04_pin_renders p ss h]

/-- the order of `wPin` -/
def canonPStmts (p : Pin) : List PStmt :=
  (p.direction.toList.map .dir) ++ (p.use_.toList.map .use) ++ (p.shape.toList.map .shape) ++ (p.antennaModel.toList.map .amodel) ++
  (p.antennaAttrs.map .antenna) ++ (p.taperRule.toList.map .taper) ++ (p.supplySensitivity.toList.map .supply) ++
  (p.groundSensitivity.toList.map .ground) ++ (p.mustJoin.toList.map .mustjoin) ++ (p.netExpr.toList.map .netexpr) ++
  (p.properties.map .prop) ++ (p.ports.map .port)

theorem rendersP_canon (p : Pin) : RendersP (canonPStmts p) p := by
  simp [RendersP, canonPStmts, List.filterMap_append, List.filterMap_map, Function.comp_def, filterMap_const_none,
    PStmt.dir?, PStmt.use?, PStmt.shape?, PStmt.amodel?, PStmt.taper?, PStmt.supply?, PStmt.ground?, PStmt.mustjoin?,
    PStmt.netexpr?, PStmt.port?, PStmt.prop?, PStmt.antenna?]

def obsList (ls : List LayerGeoms) : List (List LayerGeoms) := if ls.isEmpty then [] else [ls]

def RendersM (ss : List MStmt) (m : Macro) : Prop :=
  ss.filterMap MStmt.pin? = m.pins ∧ ss.filterMap MStmt.prop? = m.properties ∧
  ss.filterMap MStmt.cls? = m.cls.toList ∧ ss.filterMap MStmt.foreign? = m.foreign.toList ∧ ss.filterMap MStmt.origin? = m.origin.toList ∧
  ss.filterMap MStmt.source? = m.source.toList ∧ ss.filterMap MStmt.eeq? = m.eeq.toList ∧ ss.filterMap MStmt.size? = m.size.toList ∧
  ss.filterMap MStmt.symmetry? = m.symmetry.toList ∧ ss.filterMap MStmt.site? = m.site.toList ∧
  ss.filterMap MStmt.density? = m.density.toList ∧ ss.filterMap MStmt.obs? = obsList m.obs ∧
  ((ss.filterMap MStmt.fixedMask?).length != 0) = m.fixedMask

theorem c04_macro_renders (m : Macro) (ss : List MStmt) (h : RendersM ss m) : ss.foldl applyM (emptyMacro m.name) = m := by
  rw [c04_macro_fold_fields]
  unfold RendersM at h
  simp only [collectM, h, emptyMacro, lastO_toList, List.nil_append, Bool.false_or]
  cases m with | mk name pins obs => cases obs <;> rfl

theorem c04_macro_reads_back (ver : Dec) (m : Macro) (ss : List MStmt) (T : List Tok) (hok : ss.all (mstmtOk ver) = true)
    (h : RendersM ss m) : macro_ ver (wMacroStmts m.name ss ++ T) = some (m, T) := by
  rw [c04_macro_any_order ver m.name ss T hok, c04_macro_renders m ss h]

/-- the writer's order; each pin in the writer's order too -/
def canonMStmts (m : Macro) : List MStmt :=
  (m.cls.toList.map .cls) ++ (if m.fixedMask then [.fixedMask] else []) ++ (m.foreign.toList.map .foreign) ++
  (m.origin.toList.map .origin) ++ (m.source.toList.map .source) ++ (m.eeq.toList.map .eeq) ++ (m.size.toList.map .size) ++
  (m.symmetry.toList.map .symmetry) ++ (m.site.toList.map .site) ++ (m.pins.map fun p => .pin p.name (canonPStmts p)) ++
  ((obsList m.obs).map .obs) ++ (m.properties.map .prop) ++ (m.density.toList.map .density)

theorem rendersM_canon (m : Macro) : RendersM (canonMStmts m) m := by
  have hpins := filterMap_some_eq (fun p : Pin => (canonPStmts p).foldl applyP (emptyPin p.name))
    fun p => c04_pin_renders p _ (rendersP_canon p)
  simp [RendersM, canonMStmts, List.filterMap_append, List.filterMap_map, Function.comp_def, filterMap_const_none,
    List.filterMap_cons, apply_ite (List.filterMap _), MStmt.cls?, MStmt.fixedMask?, MStmt.foreign?, MStmt.origin?, MStmt.source?,
    MStmt.eeq?, MStmt.size?, MStmt.symmetry?, MStmt.site?, MStmt.obs?, MStmt.density?, MStmt.pin?, MStmt.prop?, hpins, flag_length]

theorem wPin_is_rendering (p : Pin) : wPin p = wPinStmts p.name (canonPStmts p) := by
  rw [wPin_eq]
  simp only [wPinStmts, canonPStmts, List.flatMap_append, List.flatMap_map, wPStmt, flatMap_toList, List.append_assoc,
    List.cons_append, List.nil_append]

theorem flatMap_pins (ps : List Pin) :
    (ps.map fun p => MStmt.pin p.name (canonPStmts p)).flatMap wMStmt = ps.flatMap wPin := by
  simp only [List.flatMap_map, wMStmt, ← wPin_is_rendering]

/-- the writer prints a macro as the rendering `canonMStmts`: C05's round trip is the instance "writer's order" of
    `c04_macro_reads_back` -/
theorem wMacroToks_is_rendering (m : Macro) : wMacroToks m = wMacroStmts m.name (canonMStmts m) := by
  simp only [wMacroToks, wMacroStmts, canonMStmts, obsList, wObs, wOrigin_def, List.flatMap_append, List.flatMap_map, flatMap_toList, ← wPin_is_rendering,
    wMStmt, apply_ite (List.map _), apply_ite (List.flatMap _), List.map_cons, List.map_nil, List.flatMap_cons, List.flatMap_nil,
    List.append_assoc, List.cons_append, List.nil_append, List.append_nil]
  rfl

theorem canonP_ok (p : Pin) (h : pinOk p = true) : (canonPStmts p).all pstmtOk = true := by
  replace h := pinOk_iff.1 h
  simp only [canonPStmts, List.all_append, List.all_map, Function.comp_def, pstmtOk, all_toList, Bool.and_eq_true, h, optOk_true,
    List.all_eq_true, implies_true, and_self]

theorem pin_w (p : Pin) (T : List Tok) (h : pinOk p = true) : pin (wPin p ++ T) = some (p, T) := by
  rw [wPin_is_rendering]; exact c04_pin_reads_back p _ T (canonP_ok p h) (rendersP_canon p)

/-- `hv`: the version gate of SOURCE, which reader and writer share -/
theorem canonM_ok (ver : Dec) (m : Macro) (h : macroOk m = true) (hv : m.source.isSome = true → v5p4.lt ver = false) :
    (canonMStmts m).all (mstmtOk ver) = true := by
  obtain ⟨hcls, hfor, horg, hsrc, hsz, hsym, hpins, hobs, hdens⟩ := macroOk_iff.1 h
  have hp : m.pins.all (fun p => (canonPStmts p).all pstmtOk) = true :=
    List.all_eq_true.2 fun p hp => canonP_ok p (List.all_eq_true.1 hpins p hp)
  have hf : (if m.fixedMask then [MStmt.fixedMask] else []).all (mstmtOk ver) = true := by cases m.fixedMask <;> rfl
  have ho : (obsList m.obs).all (fun ls => ls.all lgOk) = true := by unfold obsList; split <;> simp [hobs]
  have hd : optOk m.density (fun ls => ls.all dlOk) = true := hdens
  simp only [canonMStmts, List.all_append, List.all_map, Function.comp_def, mstmtOk, all_toList, Bool.and_eq_true, hcls, hfor, horg,
    optOk_gate hsrc hv, hsz, hsym, hp, hf, ho, hd, optOk_true, List.all_eq_true, implies_true, and_self]

theorem macro_w (ver : Dec) (m : Macro) (T : List Tok) (h : macroOk m = true) (hv : m.source.isSome = true → v5p4.lt ver = false) :
    macro_ ver (wMacroToks m ++ T) = some (m, T) := by
  rw [wMacroToks_is_rendering]; exact c04_macro_reads_back ver m _ T (canonM_ok ver m h hv) (rendersM_canon m)

/-! non-vacuity -/
example : pin (wPinStmts ['a'] [.use "Signal", .port ⟨none, []⟩, .dir ("Input", false)] ++ []) =
    pin (wPinStmts ['a'] [.dir ("Input", false), .use "Signal", .port ⟨none, []⟩] ++ []) :=
  c04_pin_order_free _ _ _ _ (by decide +kernel)
    ((List.Perm.cons _ (List.Perm.swap _ _ _)).trans (List.Perm.swap _ _ _))
    ⟨rfl, rfl, rfl⟩ (by unfold OnceP; decide)

/-- as `collectP`; the PROPERTYDEFINITIONS blocks are concatenated -/
def collectL (l : Lib) (ss : List LStmt) : Lib :=
  { macros := l.macros ++ ss.filterMap LStmt.macro?
    sites := l.sites ++ ss.filterMap LStmt.site?
    vias := l.vias ++ ss.filterMap LStmt.via?
    version := lastO (ss.filterMap LStmt.version?) l.version
    namesCaseSensitive := lastO (ss.filterMap LStmt.ncs?) l.namesCaseSensitive
    noWireExt := lastO (ss.filterMap LStmt.nowire?) l.noWireExt
    busBitChars := lastO (ss.filterMap LStmt.busbit?) l.busBitChars
    dividerChar := lastO (ss.filterMap LStmt.divider?) l.dividerChar
    units := lastO (ss.filterMap LStmt.units?) l.units
    fixedMask := l.fixedMask || (ss.filterMap LStmt.fixedMask?).length != 0
    clearance := lastO (ss.filterMap LStmt.clearance?) l.clearance
    extensions := l.extensions ++ ss.filterMap LStmt.ext?
    mfgGrid := lastO (ss.filterMap LStmt.mfg?) l.mfgGrid
    useMinSpacing := lastO (ss.filterMap LStmt.ums?) l.useMinSpacing
    propDefs := l.propDefs ++ (ss.filterMap LStmt.propdefs?).flatten }

theorem c04_lib_fold_fields : ∀ (ss : List LStmt) (l : Lib), ss.foldl applyL l = collectL l ss := by
  intro ss
  induction ss with
  | nil => intro l; simp [collectL]
  | cons s r ih =>
    intro l
    rw [List.foldl_cons, ih]
    cases s <;> simp only [collectL, applyL, List.filterMap_cons, LStmt.busbit?, LStmt.divider?, LStmt.ncs?, LStmt.nowire?, LStmt.units?,
      LStmt.mfg?, LStmt.ums?, LStmt.clearance?, LStmt.version?, LStmt.propdefs?, LStmt.fixedMask?, LStmt.via?, LStmt.site?,
      LStmt.macro?, LStmt.ext?, lastO_cons, List.append_assoc, List.cons_append, List.nil_append, List.flatten_cons, length_cons_bne,
      Bool.or_true, Bool.true_or]

/-- `ss` (no VERSION statement in it) says exactly the library `l` apart from its version: definitions in order,
    each present scalar once, property definitions split over any number of blocks, in any interleaving -/
def RendersL (ss : List LStmt) (l : Lib) : Prop :=
  ss.filterMap LStmt.macro? = l.macros ∧ ss.filterMap LStmt.site? = l.sites ∧ ss.filterMap LStmt.via? = l.vias ∧
  ss.filterMap LStmt.ext? = l.extensions ∧ (ss.filterMap LStmt.propdefs?).flatten = l.propDefs ∧
  ss.filterMap LStmt.version? = [] ∧
  ss.filterMap LStmt.ncs? = l.namesCaseSensitive.toList ∧ ss.filterMap LStmt.nowire? = l.noWireExt.toList ∧
  ss.filterMap LStmt.busbit? = l.busBitChars.toList ∧ ss.filterMap LStmt.divider? = l.dividerChar.toList ∧
  ss.filterMap LStmt.units? = l.units.toList ∧ ss.filterMap LStmt.clearance? = l.clearance.toList ∧
  ss.filterMap LStmt.mfg? = l.mfgGrid.toList ∧ ss.filterMap LStmt.ums? = l.useMinSpacing.toList ∧
  ((ss.filterMap LStmt.fixedMask?).length != 0) = l.fixedMask

theorem c04_lib_renders (l : Lib) (ss : List LStmt) (h : RendersL ss l) :
    ss.foldl applyL { version := l.version } = l := by
  rw [c04_lib_fold_fields]
  unfold RendersL at h
  simp only [collectL, h, lastO_toList, lastO_nil, List.nil_append, Bool.false_or]

/-- LEF's default version 5.8, with which a session starts (the model's `parse` and `wLib` write `⟨58, 1⟩`) -/
def startVer : Dec := ⟨58, 1⟩

/-- A library is read back exactly from every rendering `[VERSION v ;] <its statements in any interleaving> END LIBRARY`
    whose statements are admissible at that version (macros and their pins as arbitrary statement sequences). -/
theorem c04_lib_reads_back (l : Lib) (ss : List LStmt) (T : List Tok)
    (hver : ∀ d, l.version = some d → (decOk d && versionOk d) = true)
    (hok : ss.all (okAt (l.version.getD startVer)) = true) (h : RendersL ss l) :
    libBody ((wLibStmts (l.version.toList.map .version ++ ss) ++ T).length + 1) startVer {}
      (wLibStmts (l.version.toList.map .version ++ ss) ++ T) = some l := by
  have hr := c04_lib_renders l ss h
  apply c04_lib_any_order _ startVer {} (l.version.getD startVer) l T
  cases hv : l.version with
  | none =>
    rw [hv] at hok hr
    exact hr ▸ runL_fixed startVer ss {} hok
  | some d =>
    rw [hv] at hok hr
    have hg : guardL startVer {} (.version d) = true := by simpa [guardL] using hver d hv
    exact (if_pos hg).trans (hr ▸ runL_fixed d ss _ hok)

def propDefsList (ds : List PropDef) : List (List PropDef) := if ds.isEmpty then [] else [ds]

/-- the order of `wLib`, VERSION apart -/
def canonLStmts (l : Lib) : List LStmt :=
  l.namesCaseSensitive.toList.map .ncs ++ (l.noWireExt.toList.map .nowire ++ (l.busBitChars.toList.map .busbit ++
  (l.dividerChar.toList.map .divider ++ (l.units.toList.map .units ++ (l.mfgGrid.toList.map .mfg ++
  (l.useMinSpacing.toList.map .ums ++ (l.clearance.toList.map .clearance ++ ((propDefsList l.propDefs).map .propdefs ++
  ((if l.fixedMask then [.fixedMask] else []) ++ (l.vias.map .via ++ (l.sites.map .site ++
  ((l.macros.map fun m => .macro m.name (canonMStmts m)) ++ l.extensions.map .ext))))))))))))

theorem wLibToks_is_rendering (l : Lib) : wLibToks l = wLibStmts (l.version.toList.map .version ++ canonLStmts l) := by
  simp only [wLibToks, wLibStmts, canonLStmts, propDefsList, wPropDefs, List.flatMap_append, List.flatMap_map, flatMap_toList, wLStmt,
    ← wMacroToks_is_rendering, apply_ite (List.map _), apply_ite (List.flatMap _), List.map_cons, List.map_nil, List.flatMap_cons, List.flatMap_nil,
    List.append_assoc, List.cons_append, List.nil_append, List.append_nil]

theorem rendersL_canon (l : Lib) : RendersL (canonLStmts l) l := by
  have hmac := filterMap_some_eq (fun m : Macro => (canonMStmts m).foldl applyM (emptyMacro m.name))
    fun m => c04_macro_renders m _ (rendersM_canon m)
  have hp : ∀ ds : List PropDef, (if ds = [] then [] else [ds]).flatten = ds := by intro ds; cases ds <;> simp
  simp [RendersL, canonLStmts, propDefsList, List.filterMap_append, List.filterMap_map, Function.comp_def, filterMap_const_none,
    List.filterMap_cons, apply_ite (List.map _), apply_ite (List.filterMap _), LStmt.busbit?, LStmt.divider?, LStmt.ncs?, LStmt.nowire?, LStmt.units?, LStmt.mfg?, LStmt.ums?,
    LStmt.clearance?, LStmt.version?, LStmt.propdefs?, LStmt.fixedMask?, LStmt.via?, LStmt.site?, LStmt.macro?, LStmt.ext?, hmac, flag_length, hp]

theorem canonL_ok (l : Lib) (h : libOk l = true)
    (hn : l.namesCaseSensitive.isSome = true → v5p4.lt (l.version.getD startVer) = false)
    (hs : ∀ m ∈ l.macros, m.source.isSome = true → v5p4.lt (l.version.getD startVer) = false) :
    (canonLStmts l).all (okAt (l.version.getD startVer)) = true := by
  obtain ⟨h, h12⟩ := libOk_iff.1 h
  obtain ⟨h1, h2, h3, h4, h5, h6, h7, h8, h9, h10, h11⟩ := libOkNoExt_iff.1 h
  have hmac : l.macros.all (fun m => (canonMStmts m).all (mstmtOk (l.version.getD startVer))) = true :=
    List.all_eq_true.2 fun m hm => canonM_ok _ m (List.all_eq_true.1 h11 m hm) (hs m hm)
  have hf : (if l.fixedMask then [LStmt.fixedMask] else []).all (okAt (l.version.getD startVer)) = true := by cases l.fixedMask <;> rfl
  have hpd : (propDefsList l.propDefs).all (fun ds => ds.all pdOk) = true := by unfold propDefsList; split <;> simp [h8]
  simp only [canonLStmts, List.all_append, List.all_map, Function.comp_def, okAt, guardL, all_toList, Bool.and_eq_true, h3, h4, h5, h6, h7,
    h9, h10, h12, optOk_gate h2 hn, hmac, hf, hpd, optOk_true, and_self]

/-- Text level, statement order and lexical layout together: every text that lays out — with any white space, line breaks
    and comments — a statement sequence the reader's session admits is read to the library the session builds. -/
theorem c04_text_any_order (L : LefLexRT.Layout) (hL : L.ok = true) (ss : List LStmt) (v' : Dec) (l' : Lib)
    (hitems : L.items.map (·.1) = wLibStmts ss) (hrun : runL startVer {} ss = some (v', l')) :
    parse L.text = some l' := by
  rw [LefLexRT.parse_layout L hL, hitems]
  have := c04_lib_any_order ss startVer {} v' l' [] hrun
  rwa [List.append_nil] at this

/-- every text that lays out a rendering of a library is read back to exactly that library -/
theorem c04_text_reads_back (L : LefLexRT.Layout) (hL : L.ok = true) (l : Lib) (ss : List LStmt)
    (hver : ∀ d, l.version = some d → (decOk d && versionOk d) = true)
    (hok : ss.all (okAt (l.version.getD startVer)) = true) (h : RendersL ss l)
    (hitems : L.items.map (·.1) = wLibStmts (l.version.toList.map .version ++ ss)) :
    parse L.text = some l := by
  rw [LefLexRT.parse_layout L hL, hitems]
  have := c04_lib_reads_back l ss [] hver hok h
  rwa [List.append_nil] at this

/-! non-vacuity: an order the writer never produces (SIZE after PIN; DIVIDERCHAR and FIXEDMASK after the macro) -/
def exStmts : List LStmt :=
  [.version ⟨57, 1⟩, .macro ['m'] [.pin ['a'] [.use "Signal"], .size (⟨1, 0⟩, ⟨2, 0⟩)], .divider '/', .fixedMask]
def exLib : Lib :=
  { version := some ⟨57, 1⟩, dividerChar := some '/', fixedMask := true,
    macros := [{ (emptyMacro ['m']) with size := some (⟨1, 0⟩, ⟨2, 0⟩), pins := [{ (emptyPin ['a']) with use_ := some "Signal" }] }] }
example : libBody ((wLibStmts exStmts ++ []).length + 1) startVer {} (wLibStmts exStmts ++ []) = some exLib :=
  c04_lib_any_order exStmts startVer {} ⟨57, 1⟩ exLib [] (by decide +kernel)

end L21.Lef
