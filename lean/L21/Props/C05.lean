import L21.Proofs.LefEnum
/-
C05 — LEF write-then-read returns the library that was written (keyword / token layer).

Every keyword and enumerated value the writer emits is `to_str` (= `Display`) of an entry of a regenerated `enumstr!`
table.  For every entry of every table:

* `c05_keyword_roundtrip`: reading what the writer printed — upper-casing, first-match lookup — returns the variant that
  was written;
* `c05_keywords_lex_as_one_name`: the printed keyword is lexed as exactly one Name token covering all of it (never a
  number, never split), so the token stream the reader sees is the one the writer intended.
-/
namespace L21.LefEnum
open L21.Gen L21.LefLex

theorem c05_keyword_roundtrip : ∀ t ∈ lefEnums, ∀ p ∈ t.2,
    ∃ s, toStr t.2 p.1 = some s ∧ parse t.2 s.toList = some p.1 :=
  fun _ ht p hp => ⟨p.2, (entry_ok ht hp).2.2.2, parse_entry ht hp (upper_canonical _ (entry_ok ht hp).2.1)⟩

theorem c05_keywords_lex_as_one_name : ∀ t ∈ lefEnums, ∀ p ∈ t.2,
    lex isWsUnicode p.2.toList = .ok [⟨.name, 0, p.2.toList.length⟩] := by
  intro t ht p hp
  obtain ⟨⟨c, body, e, hc⟩, h2, _⟩ := entry_ok ht hp
  rw [e] at h2 ⊢
  exact lex_canonical c body hc h2

def lexesAsOneName (s : String) : Bool :=
  lex isWsUnicode s.toList == .ok [⟨.name, 0, s.toList.length⟩]

example : lexesAsOneName "ANTENNAPARTIALMETALSIDEAREA" = true := by decide +kernel
example : lexesAsOneName "R90" = true := by decide +kernel
example : lexesAsOneName "9R" = true := by decide +kernel  -- a name: not a number
example : lexesAsOneName "90" = false := by decide +kernel   -- would be a number

end L21.LefEnum
