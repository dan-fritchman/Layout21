import L21.Props.C04Order
import L21.Proofs.LefDec
import L21.Proofs.LefImage
import L21.Proofs.LefLexRT
/-
C05 — LEF write-then-read returns the library that was written: statement level.

`wLib` is the writer model (`LefWriter::write_lib` … `write_geom`, token level, tied to `LefLibrary::to_string` by the
`lef.wtokens` correspondence) and `libBody` the reader model (`LefParser::parse_lib` …, tied to
`LefLibrary::from_str`/`open` by the `lef.parse` correspondence).  C05's clause on decimals (every decimal rust_decimal can
hold prints to a text that reads back as the same mantissa and scale) is `c05_decimal_text_roundtrip`, `Proofs/LefDec.lean`.
-/
namespace L21.Lef
open L21.LefLex L21.LefEnum L21.Gen

/-- C05, token level: write → read is the identity on well-formed libraries. -/
theorem c05_write_read_tokens (l : Lib) (toks : List Tok) (hw : wLib l = some toks) (h : libOk l = true) :
    libBody (toks.length + 1) ⟨58, 1⟩ {} toks = some l := by
  obtain ⟨rfl, hn, hs⟩ := wLib_inv l toks hw
  have hv : ∀ d, l.version = some d → (decOk d && versionOk d) = true := fun d hd => by
    have := (libOkNoExt_iff.1 (libOk_iff.1 h).1).1
    rwa [hd] at this
  have := c04_lib_reads_back l (canonLStmts l) [] hv (canonL_ok l h hn hs) (rendersL_canon l)
  rwa [List.append_nil, ← wLibToks_is_rendering] at this

/-- C05, per macro, at any session version admitting the macro's SOURCE statement. -/
theorem c05_macro_write_read (ver : Dec) (m : Macro) (toks T : List Tok) (hw : wMacro ver m = some toks) (h : macroOk m = true) :
    macro_ ver (toks ++ T) = some (m, T) := by
  obtain ⟨hv, rfl⟩ := wMacro_inv hw
  exact macro_w ver m T h hv

/-- version gates: what the writer accepts passes the reader's gates (the converse: `wLib_of_gate`) -/
theorem c05_writer_gate_matches_reader (l : Lib) (toks : List Tok) (hw : wLib l = some toks) :
    (l.namesCaseSensitive.isSome = true → v5p4.lt (l.version.getD ⟨58, 1⟩) = false) ∧
    (∀ m ∈ l.macros, m.source.isSome = true → v5p4.lt (l.version.getD ⟨58, 1⟩) = false) :=
  (wLib_inv l toks hw).2

/-- C05, the reader's image: every library the reader model returns — for any token sequence, valid LEF or not — is
    well-formed (all of `libOk` except the condition on extension data) and is accepted by the writer model. -/
theorem c05_reader_image_writable (ts : List Tok) (l : Lib) (h : libBody (ts.length + 1) ⟨58, 1⟩ {} ts = some l) :
    libOkNoExt l = true ∧ ∃ toks, wLib l = some toks := by
  have h0 : lInv ⟨58, 1⟩ {} := by
    refine ⟨by decide, rfl, ?_, ?_⟩
    · intro h; cases h
    · intro m hm; cases hm
  obtain ⟨ver', hok, _, hn, hs⟩ := libBody_img _ _ _ _ h0 _ h
  subst_vars
  exact ⟨hok, wLib_of_gate l hn hs⟩

/-- C05 at full strength, token level: for every token sequence the reader accepts, the library it returns is written by
    the writer and read back equal.  `hext`: re-lexing each BEGINEXT block's stored data gives its tokens back; it is
    decidable, checked by the run, and not derived from the lexer theorems. -/
theorem c05_read_write_read_partial (ts : List Tok) (l : Lib) (h : libBody (ts.length + 1) ⟨58, 1⟩ {} ts = some l)
    (hext : l.extensions.all extOk = true) :
    ∃ toks, wLib l = some toks ∧ libBody (toks.length + 1) ⟨58, 1⟩ {} toks = some l := by
  obtain ⟨hok, toks, hw⟩ := c05_reader_image_writable ts l h
  exact ⟨toks, hw, c05_write_read_tokens l toks hw (libOk_iff.2 ⟨hok, hext⟩)⟩

/-- without extensions no side condition is left -/
theorem c05_read_write_read_noext (ts : List Tok) (l : Lib) (h : libBody (ts.length + 1) ⟨58, 1⟩ {} ts = some l)
    (hext : l.extensions = []) :
    ∃ toks, wLib l = some toks ∧ libBody (toks.length + 1) ⟨58, 1⟩ {} toks = some l :=
  c05_read_write_read_partial ts l h (by simp [hext])

/-- C05, text level: whatever white space, line breaks and comments separate the writer's tokens in the text (`L`: any
    layout of them in which each comment is closed by a line feed), reading the text gives back the library.  That the
    real writer's text is such a layout is the `lef.wtokens` correspondence. -/
theorem c05_write_read_text (l : Lib) (toks : List Tok) (hw : wLib l = some toks) (h : libOk l = true)
    (L : LefLexRT.Layout) (hL : L.ok = true) (hi : L.items.map (·.1) = toks) : parse L.text = some l := by
  rw [LefLexRT.parse_layout L hL, hi]
  exact c05_write_read_tokens l toks hw h

/-- extension data: token texts joined by one blank each re-lex to those tokens, so `hext` of
    `c05_read_write_read_partial` holds for every block of lexemes without ENDEXT -/
theorem c05_ext_relex (n : Str) (ts : List Tok) (hwf : ts.all LefLexRT.tokWf = true) (hend : ts.all (fun t => !isEndExt t) = true) :
    extOk (n, extJoin ts) = true := by
  have hl : extTokens (extJoin ts) = ts := by
    have := LefLexRT.tokens_layout ⟨⟨[], []⟩, ts.map (·, ⟨[' '], []⟩)⟩ (LefLexRT.itemsOk_map _ rfl rfl ts hwf)
    rw [LefLexRT.Layout.text, LefLexRT.itemsText_map, List.map_map] at this
    change tokens (extJoin ts) = some (ts.map id) at this
    rw [extTokens, this, List.map_id]
    rfl
  simp [extOk, hl, hend]

/-! non-vacuity: a library with every kind of definition meets the hypotheses -/
def demoPin : Pin :=
  { name := ['A'], ports := [⟨none, [⟨['M', '1'], [.shape (.rect none ⟨⟨0, 0⟩, ⟨0, 0⟩⟩ ⟨⟨15, 1⟩, ⟨-2, 0⟩⟩),
        .iterate (.polygon (some ⟨1, 0⟩) [⟨⟨0, 0⟩, ⟨0, 0⟩⟩, ⟨⟨1, 0⟩, ⟨0, 0⟩⟩, ⟨⟨1, 0⟩, ⟨1, 0⟩⟩]) ⟨⟨2, 0⟩, ⟨3, 0⟩, ⟨5, 1⟩, ⟨5, 1⟩⟩], [], none, none, none⟩]⟩],
    direction := some ("Output", true), use_ := some "Signal", shape := none, antennaModel := none, antennaAttrs := [],
    taperRule := none, supplySensitivity := none, groundSensitivity := none, mustJoin := none, netExpr := none,
    properties := [⟨['k'], ['v']⟩] }
def demoMacro : Macro :=
  { name := ['I', 'N', 'V'], pins := [demoPin], obs := [], cls := some ("Core", some "Spacer", false), foreign := none,
    origin := some ⟨⟨0, 0⟩, ⟨0, 0⟩⟩, size := some (⟨1380, 3⟩, ⟨272, 2⟩), symmetry := some ["X", "Y"], site := some ['u', 'n', 'i', 't'],
    source := none, eeq := none, fixedMask := true, properties := [], density := none }
def demoLib : Lib :=
  { macros := [demoMacro],
    sites := [⟨['u', 'n', 'i', 't'], "Core", (⟨46, 2⟩, ⟨272, 2⟩), some ["Y"]⟩],
    vias := [⟨['v', '1'], true, .fixed (some ⟨5, 1⟩) [⟨['M', '1'], [.rect none ⟨⟨-1, 0⟩, ⟨-1, 0⟩⟩ ⟨⟨1, 0⟩, ⟨1, 0⟩⟩]⟩]⟩],
    version := some ⟨57, 1⟩, busBitChars := some ('[', ']'), dividerChar := some '/',
    units := some { dbu := some 2000, time := some ⟨1, 0⟩ }, mfgGrid := some ⟨5, 3⟩,
    propDefs := [.real "Macro" ['p'] (some ⟨10, 1⟩) (some (⟨0, 0⟩, ⟨2, 0⟩))],
    extensions := [(['"', 't', 'a', 'g', '"'], ['a', ' ', 'b', ' '])] }

theorem demoLib_ok : libOk demoLib = true ∧ (wLib demoLib).isSome = true := by decide +kernel

example : libOk demoLib = true ∧ (wLib demoLib).isSome = true := demoLib_ok
example : decWf ⟨-123400, 4⟩ := by unfold decWf; decide
example : ∃ toks, wLib demoLib = some toks ∧ libBody (toks.length + 1) ⟨58, 1⟩ {} toks = some demoLib :=
  let ⟨toks, h⟩ := Option.isSome_iff_exists.1 demoLib_ok.2
  ⟨toks, h, c05_write_read_tokens demoLib toks h demoLib_ok.1⟩

end L21.Lef
