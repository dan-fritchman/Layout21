import L21.Proofs.GdsFlat
/-
C06 — Importing GDSII into the raw model preserves the flattened geometry: "importing … yields a library whose
cells, once flattened, contain exactly the shapes obtained by flattening the GDSII data itself under GDSII semantics".

`GdsFlat.flatten` (Spec/GdsFlatten.lean) is the specification: written from the GDSII document, it never mentions the
importer.  `RawGds.flattenCell` (Model/RawFlat.lean) is `Layout::flatten` on the imported library.  `c06_flatten`:
whenever the import succeeds, structure names are distinct and the specification defines the flattened content of a
structure (right-angle references, unit magnification, well-formed elements), the cell of that name flattens to exactly that list (same
shapes, layers and datatypes, coordinates, order), for every library and every hierarchy depth.
Before it, the pieces: array = lattice, rectangles in both orientations, malformed elements are errors, the label rule.
-/
namespace L21.RawGds
open L21.Geom L21.Gds

/-- an array reference expands to columns × rows placements -/
theorem c06_array_count (cname : Bytes) (p0 : Pt) (cols rows colx coly rowx rowy : Int) (refl : Bool) (angle : Option Nat) :
    (arrayInsts cname p0 cols rows colx coly rowx rowy refl angle).length = cols.toNat * rows.toNat := by
  rw [arrayInsts, length_flatMap_const (k := rows.toNat) fun _ _ => by rw [List.length_map, List.length_range],
    List.length_range, Nat.mul_comm]

/-- an instance at every lattice point p0 + i·(column pitch) + j·(row pitch), with the array's reflection, angle and cell -/
theorem c06_array_positions (cname : Bytes) (p0 : Pt) (cols rows colx coly rowx rowy : Int) (refl : Bool) (angle : Option Nat)
    (i j : Nat) (hi : i < cols.toNat) (hj : j < rows.toNat) :
    ∃ inst ∈ arrayInsts cname p0 cols rows colx coly rowx rowy refl angle,
      inst.loc = ⟨p0.x + (i : Int) * colx + (j : Int) * rowx, p0.y + (i : Int) * coly + (j : Int) * rowy⟩ ∧
      inst.cell = cname ∧ inst.refl = refl ∧ inst.angle = angle := by
  unfold arrayInsts
  refine ⟨⟨cname ++ [91] ++ (toString i).toUTF8.toList.map (·.toNat) ++ [93, 91] ++ (toString j).toUTF8.toList.map (·.toNat) ++ [93],
    cname, ⟨p0.x + (i : Int) * colx + (j : Int) * rowx, p0.y + (i : Int) * coly + (j : Int) * rowy⟩, refl, angle⟩, ?_, rfl, rfl, rfl, rfl⟩
  rw [List.mem_flatMap]
  refine ⟨i, List.mem_range.2 hi, ?_⟩
  rw [List.mem_map]
  exact ⟨j, List.mem_range.2 hj, rfl⟩

/-- every placement an array reference generates is one of those lattice points -/
theorem c06_array_only_lattice (cname : Bytes) (p0 : Pt) (cols rows colx coly rowx rowy : Int) (refl : Bool) (angle : Option Nat)
    (inst : Inst) (h : inst ∈ arrayInsts cname p0 cols rows colx coly rowx rowy refl angle) :
    ∃ i j : Nat, i < cols.toNat ∧ j < rows.toNat ∧
      inst.loc = ⟨p0.x + (i : Int) * colx + (j : Int) * rowx, p0.y + (i : Int) * coly + (j : Int) * rowy⟩ := by
  unfold arrayInsts at h
  rw [List.mem_flatMap] at h
  obtain ⟨i, hi, h2⟩ := h
  rw [List.mem_map] at h2
  obtain ⟨j, hj, rfl⟩ := h2
  exact ⟨i, j, List.mem_range.1 hi, List.mem_range.1 hj, rfl⟩

/-- a rectangle's corners given counter-clockwise (`c06_rect_cw`: clockwise) are recognised as the rectangle -/
theorem c06_rect_ccw (x0 y0 x1 y1 : Int) :
    boundaryShape [⟨x0, y0⟩, ⟨x1, y0⟩, ⟨x1, y1⟩, ⟨x0, y1⟩] = .rect ⟨x0, y0⟩ ⟨x1, y1⟩ := by
  simp [boundaryShape]
theorem c06_rect_cw (x0 y0 x1 y1 : Int) :
    boundaryShape [⟨x0, y0⟩, ⟨x0, y1⟩, ⟨x1, y1⟩, ⟨x1, y0⟩] = .rect ⟨x0, y0⟩ ⟨x1, y1⟩ := by
  simp [boundaryShape]

theorem c06_empty_xy (known : List Bytes) (acc : Pass1) (layer dt : Int) (c : Common) :
    importElem known acc (.boundary layer dt [] c) = .err :=
  importElem_err fun _ (.boundary h _) => nomatch h

theorem c06_zero_array (known : List Bytes) (acc : Pass1) (name : Bytes) (xy : List Int) (cols rows : Int)
    (st : Option Strans) (c : Common) (h : cols ≤ 0 ∨ rows ≤ 0) :
    importElem known acc (.aref name xy cols rows st c) = .err :=
  importElem_err fun _ (.aref _ _ hcr _ _) => hcr h

theorem c06_dangling_sref (known : List Bytes) (acc : Pass1) (name : Bytes) (xy : List Int) (st : Option Strans) (c : Common)
    (h : known.contains name = false) : importElem known acc (.sref name xy st c) = .err :=
  importElem_err fun _ (.sref hk _ _) => by rw [List.contains_iff_mem.2 hk] at h; cases h

theorem c06_abs_flags (s : Strans) (array : Bool) (h : s.absMag = true ∨ s.absAngle = true) :
    importStrans (some s) array = .err := by
  rcases h with h | h <;> simp [importStrans, h]

theorem c06_path_width (known : List Bytes) (acc : Pass1) (layer dt : Int) (xy : List Int) (pt be ee : Option Int) (c : Common)
    (w : Option Int) (h : w = none ∨ ∃ v, w = some v ∧ v < 0) :
    importElem known acc (.path layer dt xy w pt be ee c) = .err :=
  importElem_err fun _ hc => by
    cases hc with
    | path hv => obtain h | ⟨_, h, hv'⟩ := h <;> cases h; omega

example : (arrayInsts [115] ⟨0, 0⟩ 2 3 10 0 0 5 false none).map (·.loc) =
    [⟨0,0⟩, ⟨0,5⟩, ⟨0,10⟩, ⟨10,0⟩, ⟨10,5⟩, ⟨10,10⟩] := by decide

/-- an element that cannot be imported makes the whole structure an error (it is never skipped) -/
theorem c06_struct_error (known : List Bytes) (es1 es2 : List Gds.Elem) (e : Gds.Elem) (acc : Pass1)
    (he : contrib known e = .err) : importElemsP1 known acc (es1 ++ e :: es2) = .err := by
  cases h : importElemsP1 known acc (es1 ++ e :: es2) with
  | err => rfl
  | ok r =>
    obtain ⟨cs, hm, _⟩ := c06_struct_pass1 known _ acc r h
    obtain ⟨c, _, hc⟩ := result_of_map_eq_map hm (x := e) (by simp)
    rw [he] at hc; cases hc

/-- the label rule: a text located in a shape of its layer gives its lower-cased string as net name to every such shape
    that has no name yet, and is not kept; a text in no shape of its layer is kept as an annotation and changes no shape -/
theorem c06_label_rule (elems : List Elem) (annots : List (Bytes × Pt)) (s : Bytes) (layer : Int) (loc : Pt) :
    let hit := fun (e : Elem) => e.layer == layer && shapeContains e.shape loc
    (elems.any hit = true →
      (applyText elems annots (s, layer, loc)).2 = annots ∧
      (applyText elems annots (s, layer, loc)).1 = elems.map (fun e => if hit e && e.net.isNone then { e with net := some (lowerAscii s) } else e)) ∧
    (elems.any hit = false →
      (applyText elems annots (s, layer, loc)).1 = elems ∧ (applyText elems annots (s, layer, loc)).2 = annots ++ [(s, loc)]) := by
  intro hit
  rw [applyText_eq]
  constructor <;> intro h
  · rw [if_pos (show elems.any (hits layer loc) = true from h)]; exact ⟨rfl, rfl⟩
  · rw [if_neg (by rw [show elems.any (hits layer loc) = false from h]; exact Bool.false_ne_true)]; exact ⟨rfl, rfl⟩

/-- non-vacuity: a boundary, a reference and a label in one structure -/
example : importElemsP1 [[66]] {} [.boundary 1 0 [0,0, 4,0, 4,4, 0,4, 0,0] ⟨none, none, []⟩, .sref [66] [7, 8] none ⟨none, none, []⟩,
      .text [78] 1 0 [1, 1] none none none none ⟨none, none, []⟩] =
    .ok ⟨[⟨[], [66], ⟨7, 8⟩, false, none⟩], [⟨none, 1, 0, .rect ⟨0, 0⟩ ⟨4, 4⟩⟩], [([78], 1, ⟨1, 1⟩)]⟩ := by rfl

open L21.Aff L21.GdsFlat

/-- the property itself: the imported cell flattens to what the specification says the structure draws -/
theorem c06_flatten (g : Gds.Library) (lib : Lib) (hn : (g.structs.map (·.name)).Nodup)
    (h : importLib g = .ok lib) (depth : Nat) (name : Bytes) (fs : List FShape)
    (hspec : GdsFlat.flatten g.structs depth AffZ.id name = some fs) :
    flattenCell lib.cells depth AffZ.id name = some (fs.map classify) :=
  flatten_import hn h depth AffZ.id name fs ortho_id hspec

/-- `c06_flatten` seen through any right-angle placement of the top structure -/
theorem c06_flatten_placed (g : Gds.Library) (lib : Lib) (hn : (g.structs.map (·.name)).Nodup)
    (h : importLib g = .ok lib) (depth : Nat) (loc : Pt) (refl : Bool) (q : Nat) (name : Bytes) (fs : List FShape)
    (hspec : GdsFlat.flatten g.structs depth (AffZ.ofInstance loc refl q) name = some fs) :
    flattenCell lib.cells depth (AffZ.ofInstance loc refl q) name = some (fs.map classify) :=
  flatten_import hn h depth _ name fs (ortho_ofInstance loc refl q) hspec

/-- the presentation step keeps layer, datatype and every coordinate: a polygon stays the polygon, and
    only a four-vertex axis-parallel rectangle cycle is presented as the rectangle on its first and third corner -/
theorem c06_classify_keeps (l d : Int) (pts : List Pt) :
    (classify (.poly l d pts)).1 = l ∧ (classify (.poly l d pts)).2.1 = d ∧
    ((classify (.poly l d pts)).2.2 = .polygon pts ∨
      ∃ a b c e, pts = [a, b, c, e] ∧ isRectCycle a b c e = true ∧ (classify (.poly l d pts)).2.2 = .rect a c) := by
  refine ⟨rfl, rfl, ?_⟩
  match pts with
  | [a, b, c, e] =>
    simp only [classify, boundaryShape_four]
    split
    · exact .inr ⟨a, b, c, e, rfl, ‹_›, rfl⟩
    · exact .inl rfl
  | [] | [_] | [_, _] | [_, _, _] | _ :: _ :: _ :: _ :: _ :: _ => exact .inl rfl

/-! non-vacuity: structure `b` holds a rectangle boundary and a path; `a` places `b` reflected and
    rotated by 90°, and a 2 × 1 array of `b`; the import succeeds, the specification is defined, and both
    sides are evaluated -/
def demoG : Gds.Library :=
  ⟨[0x6c], 3, List.replicate 12 0, (0x3f50624dd2f1a9fc, 0x3e112e0be826d695),
   [⟨[0x61], List.replicate 12 0,
      [.sref [0x62] [100, 200] (some ⟨true, false, false, none, some 0x4056800000000000⟩) ⟨none, none, []⟩,
       .aref [0x62] [0, 0, 60, 0, 0, 40] 2 1 none ⟨none, none, []⟩]⟩,
    ⟨[0x62], List.replicate 12 0,
      [.boundary 5 0 [0, 0, 10, 0, 10, 4, 0, 4, 0, 0] ⟨none, none, []⟩,
       .path 6 1 [0, 0, 8, 0] (some 2) none none none ⟨none, none, []⟩]⟩]⟩

def demoCells : List Cell :=
  [⟨[98], [], [⟨none, 5, 0, .rect ⟨0, 0⟩ ⟨10, 4⟩⟩, ⟨none, 6, 1, .path [⟨0, 0⟩, ⟨8, 0⟩] 2⟩], []⟩,
   ⟨[97], [⟨[], [98], ⟨100, 200⟩, true, some 4636033603912859648⟩, ⟨[98, 91, 48, 93, 91, 48, 93], [98], ⟨0, 0⟩, false, none⟩,
           ⟨[98, 91, 49, 93, 91, 48, 93], [98], ⟨30, 0⟩, false, none⟩], [], []⟩]

theorem demo_import : importLib demoG = .ok ⟨[0x6c], 1, demoCells⟩ :=
  importLib_ok_iff.2 ⟨1, [1, 0], demoCells, by decide, by decide, by rw [Dep.order_eq]; decide +kernel, by decide +kernel, rfl⟩

/-- `demoG` meets the hypotheses of `c06_flatten`; the specification defines six shapes for `a` (a rectangle and a
    path per placement) -/
example : ∃ fs, GdsFlat.flatten demoG.structs 3 AffZ.id [0x61] = some fs ∧ fs.length = 6 ∧
    flattenCell demoCells 3 AffZ.id [0x61] = some (fs.map classify) ∧
    fs.map classify = [(5, 0, .rect ⟨100, 200⟩ ⟨104, 210⟩), (6, 1, .path [⟨100, 200⟩, ⟨100, 208⟩] 2),
      (5, 0, .rect ⟨0, 0⟩ ⟨10, 4⟩), (6, 1, .path [⟨0, 0⟩, ⟨8, 0⟩] 2),
      (5, 0, .rect ⟨30, 0⟩ ⟨40, 4⟩), (6, 1, .path [⟨30, 0⟩, ⟨38, 0⟩] 2)] := by
  cases hf : GdsFlat.flatten demoG.structs 3 AffZ.id [0x61] with
  | none => exact absurd hf (by decide +kernel)
  | some fs =>
    have hc := c06_flatten demoG _ (by decide +kernel) demo_import 3 [0x61] fs hf
    refine ⟨fs, rfl, ?_, hc, ?_⟩
    · have : GdsFlat.flatten demoG.structs 3 AffZ.id [0x61] = some fs := hf
      revert this; revert fs; decide +kernel
    · have : GdsFlat.flatten demoG.structs 3 AffZ.id [0x61] = some fs := hf
      revert this; revert fs; decide +kernel

end L21.RawGds
