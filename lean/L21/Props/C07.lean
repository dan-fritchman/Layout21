import L21.Proofs.RawGdsLib
import L21.Props.C13
import L21.Props.C17
/-
C07 — Raw layout exported to GDSII and imported back is unchanged, up to what GDSII cannot carry (instance names),
the importer's normalisations (`normShape`, lower-cased net names) and the importer's dependency order of the cells.
`c07_library` is the whole library, over `c07_cell_roundtrip` (one cell, net names included, under label separation
`sepOk`; it stands in `Proofs/RawGdsRT.lean`) and its pieces: one path, one rectangle, one instance, one label.  Here
also: the units, the label the exporter places lies inside its shape, and a cell without net names.
-/
namespace L21.RawGds
open L21.Geom L21.Gds

/-- every unit survives: what the exporter writes is what the importer recognises -/
theorem c07_units (u : Nat) (h : u ≤ 3) : importUnits (unitBits u).2 = some u := by
  have : u = 0 ∨ u = 1 ∨ u = 2 ∨ u = 3 := by omega
  rcases this with rfl | rfl | rfl | rfl <;> decide

example : ∀ u, u ≤ 3 → importUnits (unitBits u).2 = some u := c07_units

/-- the label the exporter emits for a named rectangle lies inside it -/
theorem c07_label_inside_rect (p0 p1 q : Pt) (h : labelLocation (.rect p0 p1) = .ok q) :
    rectContains p0 p1 q = true := by
  cases h
  exact (c13_rect ..).2 ⟨half_between p0.x p1.x, half_between p0.y p1.y⟩

/-- the label of a named polygon lies inside it (whenever a label location is found at all) -/
theorem c07_label_inside_polygon (pts : List Pt) (q : Pt) (h : labelLocation (.polygon pts) = .ok q) :
    polyContains pts q = true := by
  simp only [labelLocation] at h
  cases pts with
  | nil => simp at h
  | cons p0 rest =>
    simp only at h
    split at h
    · rename_i hc; cases h; exact hc
    · split at h
      · rename_i q' hf
        cases h
        have := List.find?_some hf
        simpa using this
      · simp at h

/-- the label of a path lies on its first segment, hence inside the path (Manhattan first segment) -/
theorem c07_label_inside_path (a b : Pt) (rest : List Pt) (w : Nat) (q : Pt)
    (hm : a.x = b.x ∨ a.y = b.y) (h : labelLocation (.path (a :: b :: rest) w) = .ok q) :
    pathContains (a :: b :: rest) w q = Geom.Out.ok true := by
  cases h
  have hx := half_between a.x b.x
  have hy := half_between a.y b.y
  have hw : (0 : Int) ≤ (w : Int) / 2 := Int.ediv_nonneg (Int.natCast_nonneg w) (by omega)
  -- the label lies on the centre line of the first segment: between its ends along it, within ± w/2 across it
  have across : ∀ {u v m : Int}, u = v → min u v ≤ m ∧ m ≤ max u v →
      min (u - (w : Int) / 2) (u + (w : Int) / 2) ≤ m ∧ m ≤ max (u - (w : Int) / 2) (u + (w : Int) / 2) := by
    rintro u _ m rfl h
    omega
  simp only [pathContains, pathSegs]
  by_cases hxe : a.x = b.x
  · have hit : rectContains ⟨a.x - (w : Int) / 2, a.y⟩ ⟨a.x + (w : Int) / 2, b.y⟩ ⟨half (a.x + b.x), half (a.y + b.y)⟩ = true :=
      (c13_rect ..).2 ⟨across hxe hx, hy⟩
    rw [if_pos hxe, if_pos hit]
  · have hye := hm.resolve_left hxe
    have hit : rectContains ⟨a.x, a.y - (w : Int) / 2⟩ ⟨b.x, a.y + (w : Int) / 2⟩ ⟨half (a.x + b.x), half (a.y + b.y)⟩ = true :=
      (c13_rect ..).2 ⟨hx, across hye hy⟩
    rw [if_neg hxe, if_pos hye, if_pos hit]

example : labelLocation (.rect ⟨-3, 0⟩ ⟨0, 5⟩) = .ok ⟨-1, 2⟩ := by decide
-- a U-shape: the bounding-box centre is outside, a neighbour of the first vertex is used
example : labelLocation (.polygon [⟨0,0⟩, ⟨0,10⟩, ⟨2,10⟩, ⟨2,2⟩, ⟨8,2⟩, ⟨8,10⟩, ⟨10,10⟩, ⟨10,0⟩]) = .ok ⟨0, 1⟩ := by decide

/-- `c07_cell_roundtrip` without net names: no side condition; the trip only normalises shapes (`stripE`) -/
theorem c07_cell_roundtrip_nonets (known : List Bytes) (tbl : LabelTbl) (c : Cell) (s : Gds.Struct)
    (h : exportCell tbl c = .ok s) (hn : ∀ e ∈ c.elems, e.net = none) (hk : ∀ i ∈ c.insts, known.contains i.cell = true) :
    importStruct known s = .ok ⟨c.name, c.insts.map eraseName, c.elems.map stripE, []⟩ :=
  (sepOk_nonets c.elems [] hn).2 ▸ c07_cell_roundtrip known tbl c s h (sepOk_nonets c.elems [] hn).1 hk

/-- non-vacuity: a named rectangle next to an unnamed one on the same layer, and a named path on another -/
def demoElems : List Elem :=
  [⟨some [118, 100, 100], 1, 0, .rect ⟨0, 0⟩ ⟨4, 4⟩⟩, ⟨none, 1, 0, .rect ⟨10, 0⟩ ⟨14, 4⟩⟩, ⟨some [97], 2, 0, .path [⟨0, 0⟩, ⟨8, 0⟩] 2⟩]
example : sepOk [] demoElems = true := by decide
example : ∃ s, exportCell [(1, some 5), (2, some 5)] ⟨[99], [], demoElems, []⟩ = .ok s ∧
    importStruct [] s = .ok ⟨[99], [], demoElems.map finalE, []⟩ := by
  cases h : exportCell [(1, some 5), (2, some 5)] ⟨[99], [], demoElems, []⟩ with
  | ok s => exact ⟨s, rfl, c07_cell_roundtrip [] _ _ s h (by decide) (by intro i hi; cases hi)⟩
  | err => exact absurd h (by decide)

/-- a library raw → GDSII → raw: the import returns name, units and the cells in the importer's dependency order, each
    as `c07_cell_roundtrip` says.  `ho` is about the exported library (`structAdj g.structs`: the importer's index graph,
    references resolved by name to the last structure of the name); that the importer's ordering succeeds on it is assumed,
    not derived from `l`. -/
theorem c07_library (tbl : LabelTbl) (l : Lib) (g : Gds.Library) (hexp : exportLib tbl l = .ok g) (hu : l.units ≤ 3)
    (hnames : (l.cells.map (·.name)).Nodup) (hsep : ∀ c ∈ l.cells, sepOk [] c.elems = true)
    (hnd : ∀ c ∈ l.cells, ∀ i ∈ c.insts, i.cell ∈ l.cells.map (·.name)) (order : List Nat)
    (ho : Dep.order (structAdj g.structs) (g.structs.length + 1) (List.range g.structs.length) = .ok order) :
    importLib g = .ok ⟨l.name, l.units, (order.filterMap (fun i => l.cells[i]?)).map finalCell⟩ := by
  obtain ⟨ss, hrel, rfl⟩ := exportLib_ok_iff.1 hexp
  have hto : ∀ n ∈ l.cells.map (·.name), n ∈ ss.map (·.name) := fun n hn => by
    obtain ⟨c, hcm, rfl⟩ := List.mem_map.1 hn
    obtain ⟨s, hs, he⟩ := result_of_map_eq_map hrel hcm
    exact List.mem_map.2 ⟨s, hs, (exportCell_refs he).1⟩
  have hdang : ss.any (fun s => s.elems.any (fun e => (refsOf e).any (fun n => !(ss.map (·.name)).contains n))) = false := by
    simp only [List.any_eq_false, Bool.not_eq_true, Bool.not_eq_false', List.contains_iff_mem]
    intro s hs e hem n hne
    obtain ⟨c, hcm, he⟩ := mem_of_map_eq_map hrel hs
    have hn : n ∈ s.elems.flatMap refsOf := List.mem_flatMap.2 ⟨e, hem, hne⟩
    rw [(exportCell_refs he).2] at hn
    obtain ⟨i, hi, rfl⟩ := List.mem_map.1 hn
    exact hto _ (hnd c hcm i hi)
  obtain ⟨hnodup, _, hdeps⟩ := Dep.c17_sound (structAdj ss) _ _ _ ho
  -- the importer resolves a reference to the last structure of its name; the order lists that structure earlier
  have himp := importStructs_export tbl _ _ [] (listed_rel _ _ hrel order) fun l1 c l2 e => by
    have hcm : c ∈ l.cells := mem_of_mem_listed (order := order) (e ▸ List.mem_append_right _ List.mem_cons_self)
    have hnd' := nodup_listed (·.name) l.cells hnames order hnodup
    rw [e, List.map_append, List.map_cons] at hnd'
    refine ⟨fun hm => (List.nodup_append.1 hnd').2.2 _ hm _ (List.mem_cons_self ..) rfl, by simp, hsep c hcm, fun i hi => .inl ?_⟩
    obtain ⟨x, hx, hbefore⟩ := listed_deps_before l.cells hdeps e
    obtain ⟨s, hs, he⟩ := (exported_at hrel x).1 c hx
    obtain ⟨sd, hsd, hsdn⟩ := lastIdx_spec (hto _ (hnd c hcm i hi))
    obtain ⟨cd, hcd, hed⟩ := (exported_at hrel _).2 sd hsd
    have hadj := mem_structAdj hs (n := i.cell) (by rw [(exportCell_refs he).2]; exact List.mem_map_of_mem hi)
    exact List.mem_map.2 ⟨cd, hbefore _ hadj cd hcd, by rw [← (exportCell_refs hed).1, hsdn]⟩
  exact importLib_ok_iff.2 ⟨_, order, _, c07_units l.units hu, hdang, ho, himp, rfl⟩

end L21.RawGds
