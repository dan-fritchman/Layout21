import L21.Proofs.Tetris
/-
C08 — compiled gridded layouts realise exactly their tracks, cuts, vias and nets.

Model: `L21/Model/Tetris.lean` (one cell against one stack; `none` = an error is reported).
-/
namespace L21.Tetris

/-- the coordinate the compiler uses for signal track `idx` (for crossings, cuts, vias, nets) is the coordinate at which
    that track is instantiated, in flipped periods too -/
theorem c08_track_positions (m : Metal) (p k : Nat) (hk : k < m.periodSignals.length) :
    ((m.periodTracks p).filter isSig)[k]? =
      (m.trackPos (p * m.periodSignals.length + k)).map fun sw => (TT.sig, sw.1, sw.2) := by
  have hn : m.periodSignals.length ≠ 0 := Nat.ne_of_gt (Nat.zero_lt_of_lt hk)
  have hdiv : (p * m.periodSignals.length + k) / m.periodSignals.length = p := by
    rw [Nat.mul_comm, Nat.mul_add_div (Nat.zero_lt_of_lt hk), Nat.div_eq_of_lt hk, Nat.add_zero]
  rw [periodSignals_of_period]
  unfold Metal.trackPos
  simp only [hn, if_false]
  rw [hdiv, Nat.mul_add_mod_of_lt hk]
  split
  · obtain ⟨s, w, e⟩ := periodSignals_get m (by omega : m.periodSignals.length - 1 - k < m.periodSignals.length)
    rw [List.getElem?_map, List.getElem?_reverse (by rw [List.length_map]; exact hk), List.getElem?_map, List.length_map, e]
    exact congrArg (fun z => some (TT.sig, z, w)) (Int.add_comm _ _)
  · obtain ⟨s, w, e⟩ := periodSignals_get m hk
    rw [List.getElem?_map, e]
    exact congrArg (fun z => some (TT.sig, z, w)) (Int.add_comm _ _)

/-- after all blockages, cuts and net assignments every rail and signal track of the period is a chain of segments from 0
    to the outline edge without gap or overlap, at a position and width the stack defines for that period -/
theorem c08_period_tiles (st : Stack) (c : Cell) (layer : Nat) (m : Metal) (span : Int) (p : Nat)
    (wf : WF st c m) (hspan : 0 ≤ span) (r : Period × List Elem)
    (h : compilePeriod st c layer m span p = some r) :
    ∀ t ∈ r.1.tracks, Chain 0 t.segs span ∧ ∃ x ∈ m.periodTracks p, t.start = x.2.1 ∧ t.width = x.2.2 := by
  refine compilePeriod_inv (Q1 := fun t => Chain 0 t.segs span ∧ ∃ x ∈ m.periodTracks p, t.start = x.2.1 ∧ t.width = x.2.2)
    (fun t ht => ?_) (fun t segs s e tp hr hc hq => ⟨cutOrBlock_chain (hr.le wf) hq.1 hc, hq.2⟩) (fun _ h => h)
    (fun t segs pos net _ hc hq => ⟨setNet_chain hq.1 hc, hq.2⟩) h
  obtain ⟨x, hx, rfl⟩ := period0_mem ht
  exact ⟨⟨rfl, hspan, rfl⟩, x, hx, rfl, rfl⟩

/-- every cut or blocked segment of a final track is a span that was requested for the period -/
theorem c08_no_unrequested_gap (st : Stack) (c : Cell) (layer : Nat) (m : Metal) (span : Int) (p : Nat)
    (wf : WF st c m) (r : Period × List Elem) (h : compilePeriod st c layer m span p = some r) :
    ∀ t ∈ r.1.tracks, ∀ s ∈ t.segs, isGap s = true → Requested st c layer m p s.start s.stop s.tp := by
  refine compilePeriod_inv (Q1 := fun t => ∀ s ∈ t.segs, isGap s = true → Requested st c layer m p s.start s.stop s.tp)
    (fun t ht s hs hg => ?_) (fun t segs s e tp hr hc hq x hx hg => ?_) (fun _ h => h) (fun t segs pos net _ hc hq x hx hg => ?_) h
  · obtain ⟨x, _, rfl⟩ := period0_mem ht
    simp [(mkTrack_segs span x s hs).1] at hg
  · rcases (cutOrBlock_mem hc).2.2 x hx with h1 | rfl | ⟨y, _, hy, e⟩
    · exact hq x h1 hg
    · exact hr
    · simp [isGap, e] at hg hy; simp [hy] at hg
  · rcases (setNet_mem hc).2 x hx with h1 | ⟨h1, _⟩
    · exact hq x h1 hg
    · simp [isGap, h1] at hg

/-- a wire piece carries a net only if an assignment of the cell with that net crosses the piece -/
theorem c08_nets (st : Stack) (c : Cell) (layer : Nat) (m : Metal) (span : Int) (p : Nat)
    (wf : WF st c m) (r : Period × List Elem) (h : compilePeriod st c layer m span p = some r) :
    ∀ t ∈ r.1.tracks, ∀ s ∈ t.segs, ∀ n, s.tp = .wire (some n) →
      ∃ a ∈ c.assigns, a.1 = n ∧ ∃ loc, crossXY st a.2 = some loc ∧
        s.start ≤ along m.horiz loc ∧ along m.horiz loc ≤ s.stop := by
  -- no net at all until the cuts are done (a later cut could separate a net from its crossing)
  refine compilePeriod_inv (Q1 := fun t => ∀ s ∈ t.segs, ∀ n, s.tp ≠ .wire (some n))
    (fun t ht s hs => ?_) (fun t segs s e tp hr hc hq x hx n hn => ?_)
    (fun t hq s hs n hn => absurd hn (hq s hs n)) ?_ h
  · obtain ⟨x, _, rfl⟩ := period0_mem ht
    exact (mkTrack_segs span x s hs).2
  · rcases (cutOrBlock_mem hc).2.2 x hx with h1 | rfl | ⟨y, hy, _, e⟩
    · exact hq x h1 n hn
    · rcases hr with ⟨rfl, _⟩ | ⟨rfl, _⟩ <;> cases hn
    · exact hq y hy n (e ▸ hn)
  · intro t segs pos net hr hc hq x hx n hn
    rcases (setNet_mem hc).2 x hx with h1 | ⟨h1, h2, h3⟩
    · exact hq x h1 n hn
    · cases h1.symm.trans hn
      obtain ⟨a, ha, e1, loc, e2, rfl⟩ := hr
      exact ⟨a, ha, e1, loc, e2, h2, h3⟩

/-- every cut requested on this layer and period survives, as a segment of the signal track it names, to the final period;
    track numbers run through all periods (`Metal.trackPos`): modulo a period's signal tracks they are the index within it -/
theorem c08_cuts_present (st : Stack) (c : Cell) (layer : Nat) (m : Metal) (span : Int) (p : Nat)
    (r : Period × List Elem) (h : compilePeriod st c layer m span p = some r) :
    ∀ x ∈ periodCuts c layer m p, ∃ loc, crossXY st x = some loc ∧
      HasAt (x.track.track % (period0 m span p).signals.length)
        ⟨.cut, along m.horiz loc - m.cutsize.tdiv 2, along m.horiz loc + m.cutsize.tdiv 2⟩ r.1 := by
  obtain ⟨pd1, pd2, acc3, -, h2, h3, h4, -⟩ := compilePeriod_eq_some h
  intro x hx
  obtain ⟨loc, hloc, q2⟩ := foldlM_made_kept
    (fun x pd => ∃ loc, crossXY st x = some loc ∧ HasAt (x.track.track % pd.signals.length)
      ⟨.cut, along m.horiz loc - m.cutsize.tdiv 2, along m.horiz loc + m.cutsize.tdiv 2⟩ pd)
    (fun pd x pd' e =>
      let ⟨loc, hloc, s⟩ := cutStep_eq_some e
      ⟨loc, hloc, s.length ▸ s.makes fun _ _ hc => (cutOrBlock_mem hc).1⟩)
    (fun y pd x pd' e ⟨loc, hloc, hq⟩ =>
      let ⟨_, _, s⟩ := cutStep_eq_some e
      ⟨loc, hloc, s.length ▸ s.keeps (fun _ _ hc hg => (cutOrBlock_mem hc).2.1 _ hg rfl) hq⟩) h2 x hx
  have q4 := nets_inv (I := fun pd => HasAt (x.track.track % pd.signals.length) _ pd)
    (fun _ _ _ _ _ _ s hq => s.length ▸ s.keeps (fun _ _ hc hg => (setNet_mem hc).1 _ hg rfl) hq) h3 h4 q2
  exact ⟨loc, hloc, compilePeriod_length h ▸ q4⟩

/-- every instance that reaches the layer and touches the period blocks its own extent on every track (rails and signals)
    of the period, and the blocked segment survives to the end -/
theorem c08_blocks_present (st : Stack) (c : Cell) (layer : Nat) (m : Metal) (span : Int) (p : Nat)
    (r : Period × List Elem) (h : compilePeriod st c layer m span p = some r) :
    ∀ i ∈ layerInsts c layer, instIntersects st m p i = true → ∀ t ∈ r.1.tracks, blockSeg st m i ∈ t.segs := by
  intro i hi hint
  obtain ⟨pd1, pd2, acc3, h1, h2, h3, h4, -⟩ := compilePeriod_eq_some h
  have q1 := foldlM_made_kept (fun i pd => instIntersects st m p i = true → pd.All (blockSeg st m i ∈ ·.segs))
    (fun pd i pd' e hint t' ht' => by
      rcases applyBlockStep_eq_some e with ⟨h0, -⟩ | ⟨-, b⟩
      · cases h0.symm.trans hint
      · obtain ⟨_, _, _, hc, rfl⟩ := b.mem ht'
        exact (cutOrBlock_mem hc).1)
    (fun j pd i pd' e hq hint => by
      rcases applyBlockStep_eq_some e with ⟨-, rfl⟩ | ⟨-, b⟩
      · exact hq hint
      · exact b.all (fun _ _ hc hg => (cutOrBlock_mem hc).2.1 _ hg rfl) (hq hint)) h1 i hi hint
  have q2 := foldlM_inv (·.All (blockSeg st m i ∈ ·.segs)) (fun _ _ _ _ e =>
    let ⟨_, _, s⟩ := cutStep_eq_some e
    s.all fun _ _ hc hg => (cutOrBlock_mem hc).2.1 _ hg rfl) h2 q1
  exact nets_inv (fun _ _ _ _ _ _ s => s.all fun _ _ hc hg => (setNet_mem hc).1 _ hg rfl) h3 h4 q2

/-- one via per assignment whose bottom track lies in the period, in order: on the stack's via layer from this metal, with
    the assignment's net, `size/2` to each side of the crossing -/
theorem c08_vias (st : Stack) (c : Cell) (layer : Nat) (m : Metal) (span : Int) (p : Nat)
    (r : Period × List Elem) (h : compilePeriod st c layer m span p = some r) :
    r.2.length = (periodBots c layer m p).length ∧
    ∀ k (hk : k < (periodBots c layer m p).length), ∃ vi v loc, viaFrom st layer = some (vi, v) ∧
      crossXY st (periodBots c layer m p)[k].1.2 = some loc ∧
      r.2[k]? = some (viaElem vi v (periodBots c layer m p)[k].1.1 loc) := by
  obtain ⟨pd1, pd2, acc3, -, -, h3, -, e⟩ := compilePeriod_eq_some h
  obtain ⟨vs, e1, e2, e3⟩ := viaFold_spec h3
  rw [e, e1]
  exact ⟨e2, e3⟩

/-- the via rectangle is symmetric about the crossing and, for even sizes, has exactly the stack's size -/
theorem c08_via_centred (vi : Nat) (v : Via) (net : Bytes) (loc : Int × Int) :
    let e := viaElem vi v net loc
    e.x0 + e.x1 = 2 * loc.1 ∧ e.y0 + e.y1 = 2 * loc.2 ∧
    (v.sx % 2 = 0 → e.x1 - e.x0 = v.sx) ∧ (v.sy % 2 = 0 → e.y1 - e.y0 = v.sy) ∧ e.via = true ∧ e.net = some net :=
  ⟨by simp only [viaElem]; omega, by simp only [viaElem]; omega, fun h => sub_add_tdiv_two h _, fun h => sub_add_tdiv_two h _,
    rfl, rfl⟩

/-- a metal rectangle emitted for a track is one of its wire or rail segments, at the track's position and width; cut and
    blocked segments emit nothing; rails carry their rail name (`[86, 68, 68]` = "VDD", `[86, 83, 83]` = "VSS") -/
theorem trackElems_mem (layer : Nat) (horiz : Bool) (t : Track) (e : Elem) (he : e ∈ trackElems layer horiz t) :
    ∃ s ∈ t.segs, isGap s = false ∧ e.via = false ∧ e.layer = layer ∧
      (e.net = match s.tp with | .wire n => n | .rail true => some [86, 68, 68] | .rail false => some [86, 83, 83] | _ => none) ∧
      (if horiz then (e.x0, e.y0, e.x1, e.y1) = (s.start, t.start, s.stop, t.start + t.width)
       else (e.x0, e.y0, e.x1, e.y1) = (t.start, s.start, t.start + t.width, s.stop)) := by
  simp only [trackElems, List.mem_filterMap] at he
  obtain ⟨s, hs, e1⟩ := he
  refine ⟨s, hs, ?_⟩
  cases hst : s.tp with
  | cut => simp [hst] at e1
  | block => simp [hst] at e1
  | wire n =>
    simp only [hst, Option.some.injEq] at e1
    subst e1
    cases horiz <;> simp [isGap, hst]
  | rail k =>
    cases k <;> simp only [hst, Option.some.injEq] at e1 <;> subst e1 <;> cases horiz <;> simp [isGap, hst]

/-- every element of a layer is a via of some period or a wire / rail segment of a final track; nothing else is emitted -/
theorem c08_elems (st : Stack) (c : Cell) (layer : Nat) (es : List Elem) (h : compileLayer st c layer = some es) :
    ∃ m, st.metals[layer]? = some m ∧ ∀ e ∈ es, ∃ p r,
      compilePeriod st c layer m (layerSpan st c m) p = some r ∧
      (e ∈ r.2 ∨ ∃ t ∈ r.1.tracks, e ∈ trackElems layer m.horiz t) := by
  unfold compileLayer at h
  split at h
  · cases h
  · rename_i m hm
    refine ⟨m, hm, fun e he => ?_⟩
    split at h
    · cases h
    · split at h
      · cases h
      · rename_i ps hp
        cases Option.some.inj h
        obtain ⟨pe, hpe, hin⟩ := List.mem_flatten.1 he
        obtain ⟨p, -, e1⟩ := mapM_some_mem hp pe hpe
        obtain ⟨r, hc, rfl⟩ := Option.map_eq_some_iff.1 e1
        exact ⟨p, r, hc, periodElems_mem layer m r e hin⟩

theorem c08_compile_layers (st : Stack) (c : Cell) (es : List Elem) (h : compile st c = some es) :
    stackOk st = true ∧ cellOk st c = true ∧
    ∀ e ∈ es, ∃ layer, layer < c.metals ∧ ∃ el, compileLayer st c layer = some el ∧ e ∈ el := by
  unfold compile at h
  split at h
  · cases h
  · split at h
    · cases h
    · rename_i h1 h2
      obtain ⟨ls, hl, rfl⟩ := Option.map_eq_some_iff.1 h
      refine ⟨by simpa using h1, by simpa using h2, fun e he => ?_⟩
      obtain ⟨el, hel, hin⟩ := List.mem_flatten.1 he
      obtain ⟨layer, hlayer, e1⟩ := mapM_some_mem hl el hel
      exact ⟨layer, List.mem_range.1 hlayer, el, e1, hin⟩

def demoMetalH : Metal := ⟨true, 20, 0, 0, true, false, [.one ⟨.gap, 20⟩, .one ⟨.sig, 20⟩, .one ⟨.gap, 10⟩, .one ⟨.sig, 40⟩, .one ⟨.gap, 30⟩]⟩
def demoMetalV : Metal := ⟨false, 10, 0, 0, false, false, [.rep [⟨.sig, 20⟩, ⟨.gap, 40⟩] 2]⟩
def demoStack : Stack := ⟨120, 120, [demoMetalH, demoMetalV], [⟨some 0, 10, 10⟩]⟩
def demoCell : Cell := ⟨2, 2, 2, [⟨2, 1, true, false, 1, 1, 1⟩], [⟨⟨0, 2⟩, ⟨1, 0⟩⟩], [([97], ⟨⟨1, 2⟩, ⟨0, 3⟩⟩)]⟩

-- an asymmetric pattern, flipped in period 1: track 2 (first of period 1) is the mirror image of track 1
example : demoMetalH.trackPos 1 = some (50, 40) := by decide
example : demoMetalH.trackPos 2 = some (150, 40) := by decide
example : demoMetalH.trackPos 3 = some (200, 20) := by decide
example : ((demoMetalH.periodTracks 1).filter isSig) = [(.sig, 150, 40), (.sig, 200, 20)] := by decide
example : WF demoStack demoCell demoMetalH := ⟨by decide, by decide, by decide, by decide⟩
-- the whole cell compiles: a cut, a reflected instance blocking [120,240] of period 1, a via with net "a"
example : (compile demoStack demoCell).isSome = true := by decide +kernel
example : ((compile demoStack demoCell).map fun es => (es.filter (·.via)).map fun e => (e.net, e.x0, e.y0, e.x1, e.y1)) =
    some [(some [97], 125, 205, 135, 215)] := by decide +kernel

end L21.Tetris
