import L21.Model.Place
import L21.Props.C17
/-
C09 — relative placement puts each instance exactly where its relation says.

Order independence: every returned location is the one the relation graph itself assigns (`Placed`, functional by
`Placed_unique`), so any two processing orders and any relisting agree.
-/
namespace L21.Place

def Side.opposite : Side → Side
  | .top => .bottom | .bottom => .top | .left => .right | .right => .left

/-! One axis at a time: `bboxOf` is `edgeLo` / `edgeHi` on each axis, and each coordinate `resolve` returns is an
`anchor` (plus the separation on the side axis), with `off = r` where the low edge of the placed instance is the
one that has to land on `e` and `off = !r` where the high edge is. -/
def edgeLo (c s : Int) (r : Bool) : Int := if r then c - s else c
def edgeHi (c s : Int) (r : Bool) : Int := if r then c else c + s
def anchor (off r : Bool) (e s : Int) : Int := if off then (if r then e + s else e - s) else e

theorem edgeLo_anchor (r : Bool) (e s : Int) : edgeLo (anchor r r e s) s r = e := by
  cases r <;> simp [edgeLo, anchor]
theorem edgeHi_anchor (r : Bool) (e s : Int) : edgeHi (anchor (!r) r e s) s r = e := by
  cases r <;> simp [edgeHi, anchor]
theorem edgeLo_anchor_add (r : Bool) (e s d : Int) : edgeLo (anchor r r e s + d) s r = e + d := by
  cases r <;> simp [edgeLo, anchor] <;> omega
theorem edgeHi_anchor_add (r : Bool) (e s d : Int) : edgeHi (anchor (!r) r e s + d) s r = e + d := by
  cases r <;> simp [edgeHi, anchor] <;> omega

/-- the placed instance's bounding box touches the reference box on the requested side at the requested separation
    (its opposite edge sits at `ref.side side ± sep`) and is flush with the reference on the alignment edge -/
theorem c09_touch (ref : Box) (sx sy : Int) (rh rv : Bool) (side align : Side) (sep : Int)
    (horth : align.horiz ≠ side.horiz) :
    let p := resolve ref sx sy rh rv side align sep
    let b := bboxOf p.1 p.2 sx sy rh rv
    b.side side.opposite = ref.side side + (match side with | .top | .right => sep | .left | .bottom => -sep) ∧
    b.side align = ref.side align := by
  -- side and alignment fixed, both conjuncts unfold to one of the four facts above, on the axis named
  cases side <;> cases align <;> first | exact absurd rfl horth | skip
  · exact ⟨edgeLo_anchor_add rv ref.y1 sy sep, edgeLo_anchor rh ref.x0 sx⟩
  · exact ⟨edgeLo_anchor_add rv ref.y1 sy sep, edgeHi_anchor rh ref.x1 sx⟩
  · exact ⟨edgeHi_anchor_add rv ref.y0 sy (-sep), edgeLo_anchor rh ref.x0 sx⟩
  · exact ⟨edgeHi_anchor_add rv ref.y0 sy (-sep), edgeHi_anchor rh ref.x1 sx⟩
  · exact ⟨edgeHi_anchor_add rh ref.x0 sx (-sep), edgeHi_anchor rv ref.y1 sy⟩
  · exact ⟨edgeHi_anchor_add rh ref.x0 sx (-sep), edgeLo_anchor rv ref.y0 sy⟩
  · exact ⟨edgeLo_anchor_add rh ref.x1 sx sep, edgeHi_anchor rv ref.y1 sy⟩
  · exact ⟨edgeLo_anchor_add rh ref.x1 sx sep, edgeLo_anchor rv ref.y0 sy⟩

/-- whatever an instance's reflections, its bounding box has the width and height of its cell (so the reference's
    reflection enters `c09_touch` only through the position of its box `ref`) -/
theorem c09_ref_reflection (x y sx sy : Int) (rh rv : Bool) :
    (bboxOf x y sx sy rh rv).x1 - (bboxOf x y sx sy rh rv).x0 = sx ∧
    (bboxOf x y sx sy rh rv).y1 - (bboxOf x y sx sy rh rv).y0 = sy := by
  simp only [bboxOf]
  constructor <;> split <;> omega

/-- `I rest done`: still to place / placed so far -/
theorem placeAll_inv {cells : List (Int × Int)} {insts : List Inst} (I : List Nat → List (Nat × Int × Int) → Prop)
    (step : ∀ i rest done x y, placeOne cells insts done i = .ok (x, y) → I (i :: rest) done → I rest (done ++ [(i, x, y)])) :
    ∀ {order done out}, placeAll cells insts order done = .ok out → I order done → I [] out
  | [], _, _, h, hi => by cases h; exact hi
  | i :: rest, done, out, h, hi => by
    rw [placeAll] at h
    split at h
    · exact placeAll_inv I step h (step i rest done _ _ ‹_› hi)
    · cases h

theorem placeAll_keys {cells : List (Int × Int)} {insts : List Inst} {order : List Nat} {done out : List (Nat × Int × Int)}
    (h : placeAll cells insts order done = .ok out) : out.map (·.1) = done.map (·.1) ++ order :=
  (List.append_nil _).symm.trans <| placeAll_inv (fun rest d => d.map (·.1) ++ rest = done.map (·.1) ++ order)
    (fun i rest d x y _ hi => by rw [List.map_append, List.append_assoc]; exact hi) h rfl

theorem run_eq_ok {cells : List (Int × Int)} {insts : List Inst} {out : List (Nat × Int × Int)} (h : run cells insts = .ok out) :
    ∃ order, Dep.order (adj insts) (insts.length + 1) (List.range insts.length) = .ok order ∧
      placeAll cells insts order [] = .ok out := by
  unfold run at h
  split at h
  · exact ⟨_, ‹_›, h⟩
  · cases h

/-- after placement every listed instance has an absolute location, exactly once -/
theorem c09_all_abs (cells : List (Int × Int)) (insts : List Inst) (out : List (Nat × Int × Int))
    (h : run cells insts = .ok out) :
    (out.map (·.1)).Nodup ∧ ∀ i, i < insts.length → i ∈ out.map (·.1) := by
  obtain ⟨order, ho, h⟩ := run_eq_ok h
  rw [placeAll_keys h]
  exact ⟨Dep.order_nodup ho, fun i hi => Dep.order_mem ho i (List.mem_range.2 hi)⟩

/-- cyclic or self-referential relations are reported as errors -/
theorem c09_cycle (cells : List (Int × Int)) (insts : List Inst)
    (hc : ∃ i, i < insts.length ∧ ∃ x, Dep.Reach (adj insts) i x ∧ ∃ d ∈ adj insts x, Dep.Reach (adj insts) d x) :
    run cells insts = .err := by
  unfold run
  cases ho : Dep.order (adj insts) (insts.length + 1) (List.range insts.length) with
  | ok order =>
    obtain ⟨i, hi, x, rx, d, hd, rd⟩ := hc
    exact absurd ho (Dep.c17_cycle_error (adj insts) _ _ ⟨i, List.mem_range.2 hi, x, rx, d, hd, rd⟩ order)
  | cycle => rfl
  | fuel => rfl

/-- a program whose relative placements all refer to earlier instances is resolved in its listing order -/
theorem c09_sorted_program_in_listing_order (cells : List (Int × Int)) (insts : List Inst)
    (h : ∀ i, i < insts.length → ∀ d ∈ adj insts i, d < i) :
    run cells insts = placeAll cells insts (List.range insts.length) [] := by
  unfold run; rw [Dep.c17_range_sorted (adj insts) insts.length h]

/-- an instance's location is a function of its reference's location only, not of anything else placed so far -/
theorem c09_depends_only_on_reference (cells : List (Int × Int)) (insts : List Inst)
    (done done' : List (Nat × Int × Int)) (i to : Nat) (side align : Side) (sep : Sep) (c : Nat) (rh rv : Bool)
    (hi : insts[i]? = some ⟨c, .rel to side align sep, rh, rv⟩)
    (hsame : done.find? (fun d => d.1 == to) = done'.find? (fun d => d.1 == to)) :
    placeOne cells insts done i = placeOne cells insts done' i := by
  simp only [placeOne, hi, hsame]

/-- the location the relation graph assigns, as a relation; nothing here mentions an order of processing or of listing -/
inductive Placed (cells : List (Int × Int)) (insts : List Inst) : Nat → Int × Int → Prop where
  | abs (i c : Nat) (x y : Int) (rh rv : Bool) (h : insts[i]? = some ⟨c, .abs x y, rh, rv⟩) : Placed cells insts i (x, y)
  | rel (i c to : Nat) (side align : Side) (sep : Sep) (rh rv : Bool) (r : Inst) (rx ry sx sy rsx rsy sv : Int)
      (h : insts[i]? = some ⟨c, .rel to side align sep, rh, rv⟩) (hr : insts[to]? = some r)
      (hp : Placed cells insts to (rx, ry)) (hc : cells[c]? = some (sx, sy)) (hrc : cells[r.cell]? = some (rsx, rsy))
      (hs : sepValue cells side.horiz sep = .ok sv) (ha : align.horiz ≠ side.horiz) :
      Placed cells insts i (resolve (bboxOf rx ry rsx rsy r.rh r.rv) sx sy rh rv side align sv)

theorem Placed_unique {cells : List (Int × Int)} {insts : List Inst} {i : Nat} {p q : Int × Int}
    (hp : Placed cells insts i p) (hq : Placed cells insts i q) : p = q := by
  induction hp generalizing q with
  | abs i c x y rh rv h =>
    cases hq with
    | abs _ _ _ _ _ _ h' => cases h.symm.trans h'; rfl
    | rel _ _ _ _ _ _ _ _ _ _ _ _ _ _ _ _ h' => cases h.symm.trans h'
  | rel i c to side align sep rh rv r rx ry sx sy rsx rsy sv h hr hp hc hrc hs ha ih =>
    cases hq with
    | abs _ _ _ _ _ _ h' => cases h.symm.trans h'
    | rel _ _ _ _ _ _ _ _ _ _ _ _ _ _ _ _ h' hr' hp' hc' hrc' hs' =>
      cases h.symm.trans h'
      cases hr.symm.trans hr'
      cases ih hp'
      cases hc.symm.trans hc'
      cases hrc.symm.trans hrc'
      cases hs.symm.trans hs'
      rfl

def AllPlaced (cells : List (Int × Int)) (insts : List Inst) (done : List (Nat × Int × Int)) : Prop :=
  ∀ d ∈ done, Placed cells insts d.1 (d.2.1, d.2.2)

theorem placeOne_sound {cells : List (Int × Int)} {insts : List Inst} {done : List (Nat × Int × Int)} {i : Nat} {p : Int × Int}
    (hd : AllPlaced cells insts done) (h : placeOne cells insts done i = .ok p) : Placed cells insts i p := by
  unfold placeOne at h
  split at h
  · cases h
  · rename_i inst hi
    obtain ⟨c, loc, rh, rv⟩ := inst
    cases loc with
    | abs x y => cases h; exact .abs i c x y rh rv hi
    | rel to side align sep =>
      dsimp only at h
      split at h
      · rename_i r k rx ry sx sy hr hf hc
        split at h
        · rename_i rsx rsy sv hrc hs
          split at h
          · cases h
          · cases h
            obtain rfl : k = to := by simpa using List.find?_some hf
            exact .rel i c k side align sep rh rv r rx ry sx sy rsx rsy sv hi hr (hd _ (List.mem_of_find?_eq_some hf)) hc hrc hs ‹_›
        · cases h
      · cases h

theorem placeAll_sound {cells : List (Int × Int)} {insts : List Inst} {order : List Nat} {out : List (Nat × Int × Int)}
    (h : placeAll cells insts order [] = .ok out) : AllPlaced cells insts out :=
  placeAll_inv (fun _ => AllPlaced cells insts)
    (fun _ _ _ _ _ hp hd d hdm => (List.mem_append.1 hdm).elim (hd d) fun h1 =>
      List.mem_singleton.1 h1 ▸ placeOne_sound hd hp) h nofun

/-- every location `place_layout` returns is the one the relation graph assigns -/
theorem c09_result_intrinsic (cells : List (Int × Int)) (insts : List Inst) (out : List (Nat × Int × Int))
    (h : run cells insts = .ok out) : ∀ d ∈ out, Placed cells insts d.1 (d.2.1, d.2.2) :=
  let ⟨_, _, h⟩ := run_eq_ok h
  placeAll_sound h

/-- processing order: in whatever two orders the instances are resolved (any two lists for which resolution succeeds, not
    only the dependency order the code computes), every instance gets the same location -/
theorem c09_order_indep (cells : List (Int × Int)) (insts : List Inst) (o1 o2 : List Nat) (out1 out2 : List (Nat × Int × Int))
    (h1 : placeAll cells insts o1 [] = .ok out1) (h2 : placeAll cells insts o2 [] = .ok out2)
    (i : Nat) (p q : Int × Int) (hp : (i, p) ∈ out1) (hq : (i, q) ∈ out2) : p = q :=
  Placed_unique (placeAll_sound h1 _ hp) (placeAll_sound h2 _ hq)

def renameInst (f : Nat → Nat) (inst : Inst) : Inst :=
  { inst with loc := match inst.loc with
      | .rel to side align sep => .rel (f to) side align sep
      | l => l }

theorem Placed_rename {cells : List (Int × Int)} {insts insts' : List Inst} {f : Nat → Nat}
    (hmap : ∀ i inst, insts[i]? = some inst → insts'[f i]? = some (renameInst f inst))
    {i : Nat} {p : Int × Int} (h : Placed cells insts i p) : Placed cells insts' (f i) p := by
  induction h with
  | abs i c x y rh rv h => exact Placed.abs (f i) c x y rh rv (by simpa [renameInst] using hmap i _ h)
  | rel i c to side align sep rh rv r rx ry sx sy rsx rsy sv h hr hp hc hrc hs ha ih =>
    exact Placed.rel (f i) c (f to) side align sep rh rv (renameInst f r) rx ry sx sy rsx rsy sv
      (by simpa [renameInst] using hmap i _ h) (hmap to r hr) ih hc (by simpa [renameInst] using hrc) hs ha

/-- listing order: list the same instances in another order (`f` says where each went, references renumbered accordingly);
    if both layouts are placed, instance `i` of the first and `f i` of the second are at the same location -/
theorem c09_listing_indep (cells : List (Int × Int)) (insts insts' : List Inst) (f : Nat → Nat)
    (hmap : ∀ i inst, insts[i]? = some inst → insts'[f i]? = some (renameInst f inst))
    (out out' : List (Nat × Int × Int)) (h : run cells insts = .ok out) (h' : run cells insts' = .ok out')
    (i : Nat) (p q : Int × Int) (hp : (i, p) ∈ out) (hq : (f i, q) ∈ out') : p = q :=
  Placed_unique (Placed_rename hmap (c09_result_intrinsic cells insts out h _ hp)) (c09_result_intrinsic cells insts' out' h' _ hq)

/-- non-vacuity: two instances listed in both orders -/
example : run [(4, 2)] [⟨0, .abs 10 20, false, false⟩, ⟨0, .rel 0 .right .bottom .none, false, false⟩] = .ok [(0, 10, 20), (1, 14, 20)] ∧
    run [(4, 2)] [⟨0, .rel 1 .right .bottom .none, false, false⟩, ⟨0, .abs 10 20, false, false⟩] = .ok [(1, 10, 20), (0, 14, 20)] := by
  simp only [run, Dep.order_eq]; decide +kernel

theorem c09_array_count (cell count : Nat) (sx sy : Int) : (flattenArr (.leaf cell count sx sy)).length = count := by
  simp [flattenArr]

/-- an array instance expands to `count` copies at successive multiples of the pitch, mirrored
    according to the array's reflection about its origin, then moved to its location -/
theorem c09_array (cell count : Nat) (sx sy x y : Int) (rh rv : Bool) (k : Nat) (hk : k < count) :
    (flattenArrInst (.leaf cell count sx sy) x y rh rv)[k]? =
      some ⟨cell, (if rh then -((k : Int) * sx) else (k : Int) * sx) + x,
                  (if rv then -((k : Int) * sy) else (k : Int) * sy) + y, rh, rv⟩ := by
  simp [flattenArrInst, flattenArr, placeChild, hk]

/-- nested arrays: the outer array places mirrored/translated copies of the flattened inner array -/
theorem c09_array_nested (inner : ArrDef) (count : Nat) (sx sy : Int) :
    flattenArr (.nested inner count sx sy) =
      (List.range count).flatMap (fun (k : Nat) => flattenArrInst inner ((k : Int) * sx) ((k : Int) * sy) false false) := by
  simp [flattenArr, flattenArrInst]

theorem c09_mirror_involutive (c : Child) (rh rv : Bool) :
    placeChild 0 0 rh rv (placeChild 0 0 rh rv c) = c := by
  cases rh <;> cases rv <;> cases c <;> simp [placeChild]

-- a 3×7 cell placed to the right of a reference at the origin, top-aligned, itself reflected horizontally
example : resolve (bboxOf 0 0 3 7 false false) 3 7 true false .right .top 2 = (8, 0) := by decide
example : run [(3, 7)] [⟨0, .rel 1 .right .bottom .none, false, false⟩, ⟨0, .abs 0 0, false, false⟩] = .ok [(1, 0, 0), (0, 3, 0)] := by
  rw [run, Dep.order_eq]; decide +kernel

end L21.Place
