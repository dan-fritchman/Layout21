import L21.Proofs.GdsImage
import L21.Proofs.GdsLazy
/-
C10 — The GDSII reader never crashes or hangs on any input bytes.

The indexing / `unwrap` sites of the Rust reader (`bytes[0], bytes[1]` for bit arrays, `read_i16(len)?[0]`, `d[0], d[1]`,
`v[0], v[1]`, `try_into().unwrap()` on 12 / 6 element vectors) are reached only with the payload length the record's
read-table row demands; `c10_read_rows_safe` checks on the regenerated table that every row fixes the length its
layout needs.  That is a fact about the table alone: the model's decoders are total whatever the length, and no theorem
connects `readRowSafe` to `decodePayload`.
-/
namespace L21.Gds
open L21

def readRowSafe (r : Nat × Nat × Option Nat × PK) : Bool :=
  match r.2.2.2, r.2.2.1 with
  | .none, some 0 => true
  | .bits, some 2 => true
  | .i16 n, some k => k == 2 * n && 0 < n
  | .i32 n, some k => k == 4 * n && 0 < n
  | .f64 n, some k => k == 8 * n && 0 < n
  | .str, none => true
  | .i32vec, none => true
  | _, _ => false

theorem c10_read_rows_safe : Gen.gdsReadTable.all readRowSafe = true := by decide

/-- the tokenizer's budget ⌊len/4⌋+1 is never the reason for an error -/
theorem tokenize_fuel_mono : ∀ (fuel : Nat) (bs : Bytes), bs.length / 4 + 1 ≤ fuel →
    tokenize (fuel + 1) bs = tokenize fuel bs := by
  intro fuel bs h
  rw [tokenize_eq _ bs (Nat.le_succ_of_le h), tokenize_eq _ bs h]

/-- a stream that ends before ENDLIB is never accepted -/
theorem c10_needs_endlib (bs : Bytes) (l : Library) (h : dec bs = .ok l) :
    ∃ recs pre pl, tokenize (bs.length / 4 + 1) bs = .ok recs ∧ recs = pre ++ [⟨rEndLib, pl⟩] := by
  have hc := (dec_ok_iff.1 h).1
  obtain ⟨pre, pl, e⟩ := complete_split hc
  exact ⟨_, pre, pl, by rw [tokenize_eq _ bs (Nat.le_refl _), if_pos hc], e⟩

theorem c10_needs_endlib_lazy (bs : Bytes) (l : Library) (h : decLazy bs = .ok l) :
    ∃ recs pre pl, tokenize (bs.length / 4 + 1) bs = .ok recs ∧ recs = pre ++ [⟨rEndLib, pl⟩] := by
  rw [decLazy_eq_dec] at h; exact c10_needs_endlib bs l h

/-- `Out` has two constructors; with `c10_read_rows_safe` (index sites) and `tokenize_fuel_mono` (termination) this is the
    model-level "never panics, never hangs". -/
theorem c10_total (bs : Bytes) : (∃ l, dec bs = .ok l) ∨ dec bs = .err := (dec bs).ok_or_err

/-- The three record-level loops start with `remaining records + 1`; any larger budget gives the same answer: no error
    comes from the budget, every iteration consumes a record. -/
theorem c10_parser_fuel (n : Nat) (rs : List Rec) :
    (∀ v d lb, parseLibBody v d (rs.length + 1 + n) lb rs = parseLibBody v d (rs.length + 1) lb rs) ∧
    (∀ acc, parseElems (rs.length + 1 + n) acc rs = parseElems (rs.length + 1) acc rs) ∧
    (∀ k b, parseElem k (rs.length + 1 + n) b rs = parseElem k (rs.length + 1) b rs) :=
  ⟨fun v d lb => parseLibBody_fuel_le v d lb rs (by omega), fun acc => parseElems_fuel_le acc rs (by omega),
   fun k b => parseElem_fuel_le k b rs (by omega)⟩

/-- For any byte string (bytes < 256): each record of the returned tree was copied from an input record (fields in range,
    reals representable, length fits 16 bits) or is a payload-free / STRANS-flag record the writer synthesises. -/
theorem c10_rewritable (bs : Bytes) (l : Library) (hb : BytesOk bs) (h : dec bs = .ok l) : ∃ bs', enc l = .ok bs' := by
  obtain ⟨_, hg⟩ := dec_image bs l hb h
  exact encRecords_ok _ (fun r hr => (hg r hr).2)

/-- Every library the reader returns is written and then read back to the same value (−0.0 as +0.0).  `_partial`: `hreal`
    excludes exactly the reals that C01/C15 exclude, finite doubles below 16^-65 that happen to be exact denormalised GDSII
    reals; the reader does return such values (correspondence and the C10 oracle cover them), the theorem does not. -/
theorem c10_reencodable_partial (bs : Bytes) (l : Library) (hb : BytesOk bs) (h : dec bs = .ok l)
    (hreal : (libRecs l).all realsOkB = true) :
    ∃ bs', enc l = .ok bs' ∧ dec bs' = .ok (canonLib l) := by
  obtain ⟨hshape, hg⟩ := dec_image bs l hb h
  obtain ⟨bs', he⟩ := c10_rewritable bs l hb h
  exact ⟨bs', he, dec_enc l bs' he hshape fun r hr =>
    recOk_of_B r (recOkB_of_parts r (hg r hr).1 (List.all_eq_true.1 hreal r hr))⟩

example : dec [0,6,0,2,0,3,0,28,1,2,0,0,0,0,0,0,0,0,0,0,0,0,0,0,0,0,0,0,0,0,0,0,0,0,0,6,2,6,97,0,0,20,3,5,62,65,137,55,75,198,167,240,57,68,184,47,160,155,90,84,0,4,4,0]
    = .ok ⟨[0x61], 3, [0,0,0,0,0,0,0,0,0,0,0,0], (0x3f50624dd2f1a9fc, 0x3e112e0be826d695), []⟩ := by decide +kernel
/-- the stream above meets the hypotheses of `c10_reencodable_partial` -/
example : ∃ bs', enc ⟨[0x61], 3, [0,0,0,0,0,0,0,0,0,0,0,0], (0x3f50624dd2f1a9fc, 0x3e112e0be826d695), []⟩ = .ok bs' ∧
    dec bs' = .ok (canonLib ⟨[0x61], 3, [0,0,0,0,0,0,0,0,0,0,0,0], (0x3f50624dd2f1a9fc, 0x3e112e0be826d695), []⟩) :=
  c10_reencodable_partial [0,6,0,2,0,3,0,28,1,2,0,0,0,0,0,0,0,0,0,0,0,0,0,0,0,0,0,0,0,0,0,0,0,0,0,6,2,6,97,0,0,20,3,5,62,65,137,55,75,198,167,240,57,68,184,47,160,155,90,84,0,4,4,0] _
    (by intro b hb; revert b; decide) (by decide +kernel) (by decide)
-- truncated before ENDLIB: error
example : dec [0,6,0,2,0,3, 0,28,1,2] = .err := by decide

end L21.Gds
