import L21.Proofs.LefState
/-
C11 — the LEF reader never crashes or hangs on any input text: the lexer and the error report.

Every slice of the source the reader takes is `src[tok.start .. tok.stop]` for a lexer token, or the current line
`src[linestart ..]` for the error report (`LefParser::state`, modelled in `Model/LefState.lean` with the lexer
bookkeeping `line`, `linestart`, `pos` it reads).
-/
namespace L21.LefLex

/-- Every token of every text is the byte range of a contiguous non-empty run of whole characters:
    no slice starts or ends inside a multi-byte character, or beyond the end of the text. -/
theorem c11_tokens_are_substrings (isWs : Char → Bool) (src : List Char) (ts : List Tok)
    (h : lex isWs src = .ok ts) : ∀ t ∈ ts, IsSub 0 src t :=
  lexFrom_sub isWs _ 0 src ts h

theorem c11_token_bounds (isWs : Char → Bool) (src : List Char) (ts : List Tok)
    (h : lex isWs src = .ok ts) : ∀ t ∈ ts, t.start < t.stop ∧ t.stop ≤ bytes src := by
  intro t ht
  obtain ⟨pre, mid, suf, e, hm, hs, he⟩ := c11_tokens_are_substrings isWs src ts h t ht
  have hpos : 0 < bytes mid := by
    cases mid with
    | nil => exact absurd rfl hm
    | cons c r => rw [bytes_cons]; have := Char.utf8Size_pos c; omega
  rw [e, bytes_append, bytes_append]
  omega

/-- The lexer is total: every character is skipped or starts a token and each step consumes at least one, so the budget
    of `length + 1` steps suffices and a token list is returned for every text. -/
theorem c11_lex_total (isWs : Char → Bool) (src : List Char) : ∃ ts, lex isWs src = .ok ts :=
  lexFrom_total isWs _ 0 src (by omega)

/-! non-vacuity: texts with multi-byte characters (DESIGN §G) -/
example : lex isWsUnicode "é".toList = .ok [⟨.name, 0, 2⟩] := by decide
example : lex isWsUnicode "# ü\nA ;".toList = .ok [⟨.name, 5, 6⟩, ⟨.semi, 7, 8⟩] := by decide

/-- The bookkeeping lexer yields exactly the tokens of `lex`. -/
theorem c11_state_lexer_same_tokens (isWs : Char → Bool) (src : List Char) :
    projOut (lexSt isWs src) = lex isWs src :=
  lexStFrom_tokens isWs _ 0 1 0 src

/-- At every parser position `linestart` is the byte length of a prefix of the text (a character
    boundary inside the text), and at end of input `pos` is the byte length of the whole text. -/
theorem c11_linestart_is_boundary (isWs : Char → Bool) (src : List Char) (ts : List STok) (e : EndSt)
    (h : lexSt isWs src = .ok (ts, e)) :
    (∀ t ∈ ts, ∃ pre suf, src = pre ++ suf ∧ t.linestart = bytes pre) ∧
    (∃ pre suf, src = pre ++ suf ∧ e.linestart = bytes pre) ∧ e.pos = bytes src := by
  have hg := lexStFrom_ok isWs (src.length + 1) 0 1 0 src
  unfold lexSt at h
  rw [h] at hg
  obtain ⟨h1, h2, h3⟩ := hg
  have conv : ∀ x, LsOk 0 0 src x → ∃ pre suf, src = pre ++ suf ∧ x = bytes pre := by
    intro x hx
    rcases hx with rfl | ⟨pre, suf, e', hx⟩
    · exact ⟨[], src, rfl, by simp [bytes]⟩
    · exact ⟨pre, suf, e', by omega⟩
  exact ⟨fun t ht => conv _ (h1 t ht), conv _ h2, by omega⟩

/-- The error report never panics: for every text and every parser position — each token as the look-ahead, and end of
    input — the slices taken by `LefParser::state` (`txt(next_tok)`, `src[linestart..]`) are in range and on character
    boundaries. -/
theorem c11_error_report_never_panics (isWs : Char → Bool) (src : List Char) (rs : List (Option Report))
    (h : reports isWs src = .ok rs) : ∀ r ∈ rs, r ≠ none := by
  obtain ⟨ts, e, hl, rfl⟩ := reports_ok h
  obtain ⟨h1, ⟨pre, suf, he, hle⟩, _⟩ := c11_linestart_is_boundary isWs src ts e hl
  have htoks : lex isWs src = .ok (ts.map (·.tok)) := by
    rw [← c11_state_lexer_same_tokens, hl]; rfl
  intro r hr
  rcases List.mem_append.1 hr with hr | hr
  · obtain ⟨t, ht, rfl⟩ := List.mem_map.1 hr
    obtain ⟨mid, _, hsl⟩ := sliceBytes_of_isSub
      (c11_tokens_are_substrings isWs src _ htoks t.tok (List.mem_map_of_mem (f := (·.tok)) ht))
    obtain ⟨pre', suf', he', hls⟩ := h1 t ht
    simp [reportAt, hsl, hls, lineContentAt_some he']
  · cases List.mem_singleton.1 hr
    simp [reportEnd, hle, lineContentAt_some he]

/-- the report builder is total: the lexer's step budget is never the reason for an error -/
theorem c11_reports_total (isWs : Char → Bool) (src : List Char) : ∃ rs, reports isWs src = .ok rs := by
  obtain ⟨ts, hts⟩ := c11_lex_total isWs src
  have := c11_state_lexer_same_tokens isWs src
  unfold reports
  cases hl : lexSt isWs src with
  | err => rw [hl, hts] at this; cases this
  | ok p => exact ⟨_, rfl⟩

/-- the reported line: at most 200 characters, none of them a line feed -/
theorem c11_error_line_bounded (isWs : Char → Bool) (src : List Char) (rs : List (Option Report))
    (h : reports isWs src = .ok rs) : ∀ rep, some rep ∈ rs →
    rep.lineContent.length ≤ 200 ∧ '\n' ∉ rep.lineContent := by
  obtain ⟨ts, e, _, rfl⟩ := reports_ok h
  intro rep hr
  -- either way the line is a `lineContentAt`
  suffices ∃ ls, lineContentAt src ls = some rep.lineContent from this.elim fun _ => lineContentAt_bounded
  rcases List.mem_append.1 hr with hr | hr
  · obtain ⟨t, _, ht⟩ := List.mem_map.1 hr
    unfold reportAt at ht
    split at ht
    · cases ht; exact ⟨_, ‹_›⟩
    · cases ht
  · obtain ⟨lc, hlc, e'⟩ := Option.map_eq_some_iff.1 (List.mem_singleton.1 hr).symm
    cases e'; exact ⟨_, hlc⟩

/-! non-vacuity: a two-byte and a four-byte character before a line feed, a string literal holding a line feed, a comment -/
example : reports isWsUnicode "é𝄞 A\n\"x\ny\" # c\n ;".toList =
    .ok [some ⟨"é𝄞 A".toList, 1, "é𝄞".toList, 6⟩, some ⟨"é𝄞 A".toList, 1, "A".toList, 8⟩,
         some ⟨"\"x".toList, 2, "\"x\ny\"".toList, 14⟩, some ⟨" ;".toList, 3, ";".toList, 21⟩,
         some ⟨" ;".toList, 3, "EOF".toList, 21⟩] := by decide +kernel

end L21.LefLex
