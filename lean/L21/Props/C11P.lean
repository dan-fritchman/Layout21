import L21.Proofs.LefProgress
/-
C11 — the LEF reader never hangs: the parser part.

The reader model (`L21/Model/Lef.lean`, tied to `LefLibrary::from_str` by the `lef.parse` correspondence on valid and
faulted texts) writes every loop of lef21's recursive-descent parser as a fuel-indexed function started with
`remaining tokens + 1`, and puts a progress guard `r.length < ts.length` in front of the recursive call wherever a whole
sub-construct was parsed.  Neither device exists in the Rust code, so each is a place where the model could answer `none`
while the code loops for ever.  Proved inside the model: a guard directly behind one of the 17 routines of
`c11_every_construct_consumes` passes (that no guard at all ever fires is not stated as a theorem); and once the budget
exceeds the number of remaining tokens a larger budget never changes the answer, whether or not a guard fires: the loops
end because the input does.
-/
namespace L21.Lef
open L21.LefLex L21.LefEnum

/-- states nothing beyond the type of `parse`: its value is an `Option` -/
theorem c11_parse_total (src : List Char) : parse src = none ∨ ∃ l, parse src = some l := by
  cases h : parse src with
  | none => exact Or.inl rfl
  | some l => exact Or.inr ⟨l, rfl⟩

/-- the budget is never the reason for an answer: with any budget above the one the reader starts with, the library-level
    loop gives the same result -/
theorem c11_fuel_never_exhausted (ts : List Tok) (ver : Dec) (lib : Lib) (n : Nat) :
    libBody (ts.length + 1 + n) ver lib ts = libBody (ts.length + 1) ver lib ts :=
  libBody_rel.fuel (by omega) (Nat.lt_succ_self _) (ver, lib)

/-- the same for every inner loop (each is started with `remaining + 1`) -/
theorem c11_inner_loops_fuel (f : Nat) (ts : List Tok) (h : ts.length < f) :
    (∀ ver m, macroBody ver f m ts = macroBody ver (f + 1) m ts) ∧
    (∀ p, pinBody f p ts = pinBody (f + 1) p ts) ∧
    (∀ p, portBody f p ts = portBody (f + 1) p ts) ∧
    (∀ lg, layerHeader f lg ts = layerHeader (f + 1) lg ts) ∧
    (∀ lg, layerBody f lg ts = layerBody (f + 1) lg ts) ∧
    (pointList f ts = pointList (f + 1) ts) ∧
    (∀ acc, propertyPairs f acc ts = propertyPairs (f + 1) acc ts) ∧
    (∀ acc, obsBody f acc ts = obsBody (f + 1) acc ts) ∧
    (∀ acc, densityRects f acc ts = densityRects (f + 1) acc ts) ∧
    (∀ acc, densityBody f acc ts = densityBody (f + 1) acc ts) ∧
    (∀ acc, symmetries f acc ts = symmetries (f + 1) acc ts) ∧
    (∀ u, unitsBody f u ts = unitsBody (f + 1) u ts) ∧
    (∀ name b, siteBody name f b ts = siteBody name (f + 1) b ts) ∧
    (∀ acc, viaShapes f acc ts = viaShapes (f + 1) acc ts) ∧
    (∀ acc, viaLayers f acc ts = viaLayers (f + 1) acc ts) ∧
    (∀ g, genViaBody f g ts = genViaBody (f + 1) g ts) ∧
    (∀ acc, propDefs f acc ts = propDefs (f + 1) acc ts) ∧
    (∀ acc, extBody f acc ts = extBody (f + 1) acc ts) :=
  ⟨fun ver => (macroBody_rel ver).fuel_succ h, pinBody_rel.fuel_succ h, portBody_rel.fuel_succ h, layerHeader_rel.fuel_succ h,
   layerBody_rel.fuel_succ h, pointList_fuel h, propertyPairs_rel.fuel_succ h, obsBody_rel.fuel_succ h, densityRects_rel.fuel_succ h,
   densityBody_rel.fuel_succ h, symmetries_rel.fuel_succ h, unitsBody_rel.fuel_succ h, fun name => (siteBody_rel name).fuel_succ h,
   viaShapes_rel.fuel_succ h, viaLayers_rel.fuel_succ h, genViaBody_rel.fuel_succ h, propDefs_rel.fuel_succ h, extBody_rel.fuel_succ h⟩

/-- every sub-construct consumes input: whatever one of these 17 definition- and statement-level routines returns, strictly
    fewer tokens remain, so a progress guard directly behind one passes -/
theorem c11_every_construct_consumes (ts r : List Tok) :
    (∀ ver m, macro_ ver ts = some (m, r) → r.length < ts.length) ∧
    (∀ s, site ts = some (s, r) → r.length < ts.length) ∧
    (∀ v, viaDef ts = some (v, r) → r.length < ts.length) ∧
    (∀ p, pin ts = some (p, r) → r.length < ts.length) ∧
    (∀ p, port ts = some (p, r) → r.length < ts.length) ∧
    (∀ lg, layerGeoms ts = some (lg, r) → r.length < ts.length) ∧
    (∀ g, geometry ts = some (g, r) → r.length < ts.length) ∧
    (∀ d, pinDirection ts = some (d, r) → r.length < ts.length) ∧
    (∀ acc ps, property acc ts = some (ps, r) → r.length < ts.length) ∧
    (∀ c, macroClass ts = some (c, r) → r.length < ts.length) ∧
    (∀ s, sizeStmt ts = some (s, r) → r.length < ts.length) ∧
    (∀ s, viaShape ts = some (s, r) → r.length < ts.length) ∧
    (∀ f acc ss, symmetries f acc ts = some (ss, r) → r.length < ts.length) ∧
    (∀ f acc ds, densityBody f acc ts = some (ds, r) → r.length < ts.length) ∧
    (∀ f u u', unitsBody f u ts = some (u', r) → r.length < ts.length) ∧
    (∀ f acc ds, propDefs f acc ts = some (ds, r) → r.length < ts.length) ∧
    (∀ f acc data, extBody f acc ts = some (data, r) → r.length < ts.length) :=
  ⟨fun _ _ => (macro_adv _).lt, fun _ => site_adv.lt, fun _ => viaDef_adv.lt, fun _ => pin_adv.lt, fun _ => port_adv.lt,
   fun _ => layerGeoms_adv.lt, fun _ => geometry_adv.lt, fun _ => pinDirection_adv.lt, fun _ _ => (property_adv _).lt,
   fun _ => macroClass_adv.lt, fun _ => (Adv.mono (n := 1) sizeStmt_adv).lt, fun _ => viaShape_adv.lt,
   fun f _ _ => (symmetries_rel.adv_at (fun _ _ => rfl) f _).lt,
   fun f _ _ => (densityBody_rel.adv_at (fun _ _ => rfl) f _).lt,
   fun f _ _ => (unitsBody_rel.adv_at (fun _ _ => rfl) f _).lt,
   fun f _ _ => (propDefs_rel.adv_at (fun _ _ => rfl) f _).lt,
   fun f _ _ => (extBody_rel.adv_at (fun _ _ => rfl) f _).lt⟩

/-- non-vacuity: a budget below the input length does change answers (the budget is not simply ignored) -/
example : pointList 1 [⟨.number, ['1']⟩, ⟨.number, ['2']⟩] = none ∧
    (pointList 3 [⟨.number, ['1']⟩, ⟨.number, ['2']⟩]).isSome = true := by decide

end L21.Lef
