import L21.Model.Aff
import Mathlib.Algebra.Group.Int.Defs
/-
C12 — instance transforms compose like the geometric operations they name (exact layer: the eight right-angle
orientations, integer coordinates).
The Mathlib import only decides what `^ 2` in the statement of `c12_isometry` stands for: with it `Monoid.npow`, without it
core's `Int.pow`; the file compiles unchanged either way.
-/
namespace L21.Aff
open L21.Geom

theorem cosQ_sq_add_sinQ_sq (q : Nat) : cosQ q * cosQ q + sinQ q * sinQ q = 1 := by
  unfold cosQ sinQ
  have : q % 4 = 0 ∨ q % 4 = 1 ∨ q % 4 = 2 ∨ q % 4 = 3 := by omega
  rcases this with h | h | h | h <;> rw [h] <;> rfl

/-- nesting composes: the cascaded transform applied to a point is the parent applied to the child's image -/
theorem c12_cascade_apply (p c : AffZ) (pt : Pt) : (p.cascade c).apply pt = p.apply (c.apply pt) := by
  simp only [AffZ.cascade, AffZ.apply, Pt.mk.injEq]
  constructor <;> grind

/-- placing with (location, reflection, angle) = translate ∘ rotate ∘ reflect, built from the library's own elementary
    transforms with its own `cascade` -/
theorem c12_from_instance (loc : Pt) (refl : Bool) (q : Nat) :
    AffZ.ofInstance loc refl q =
      (AffZ.translate loc.x loc.y).cascade ((AffZ.rot q).cascade (if refl then AffZ.reflX else AffZ.id)) := by
  cases refl <;> simp [AffZ.ofInstance, AffZ.translate, AffZ.rot, AffZ.cascade, AffZ.reflX, AffZ.id]

/-- a placement moves a point by reflecting first, then rotating, then translating -/
theorem c12_from_instance_apply (loc : Pt) (refl : Bool) (q : Nat) (p : Pt) :
    (AffZ.ofInstance loc refl q).apply p =
      (AffZ.translate loc.x loc.y).apply ((AffZ.rot q).apply ((if refl then AffZ.reflX else AffZ.id).apply p)) := by
  rw [c12_from_instance, c12_cascade_apply, c12_cascade_apply]

theorem c12_cascade_assoc (p c g : AffZ) : (p.cascade c).cascade g = p.cascade (c.cascade g) := by
  simp only [AffZ.cascade, AffZ.mk.injEq]
  refine ⟨?_, ?_, ?_, ?_, ?_, ?_⟩ <;> grind

theorem c12_cascade_id (t : AffZ) : AffZ.id.cascade t = t ∧ t.cascade AffZ.id = t := by
  cases t; simp [AffZ.cascade, AffZ.id]

/-- reflected placements are mirror images (determinant −1), unreflected ones rotations (+1) -/
theorem c12_det_instance (loc : Pt) (refl : Bool) (q : Nat) :
    (AffZ.ofInstance loc refl q).det = if refl then -1 else 1 := by
  have := cosQ_sq_add_sinQ_sq q
  cases refl <;> simp only [AffZ.ofInstance, AffZ.det, Int.mul_neg, Int.neg_mul, if_true, if_false, Bool.false_eq_true] <;> omega

/-- determinants multiply under nesting, so an odd number of reflections on a path mirrors -/
theorem c12_det_cascade (p c : AffZ) : (p.cascade c).det = p.det * c.det := by
  simp only [AffZ.cascade, AffZ.det]; grind

/-- a matrix with orthonormal columns keeps squared distances -/
theorem AffZ.isometry (t : AffZ) (h1 : t.a * t.a + t.c * t.c = 1) (h2 : t.b * t.b + t.d * t.d = 1)
    (h3 : t.a * t.b + t.c * t.d = 0) (u v : Pt) :
    ((t.apply u).x - (t.apply v).x) ^ 2 + ((t.apply u).y - (t.apply v).y) ^ 2 = (u.x - v.x) ^ 2 + (u.y - v.y) ^ 2 :=
  calc _ = (t.a * t.a + t.c * t.c) * (u.x - v.x) ^ 2 + (t.b * t.b + t.d * t.d) * (u.y - v.y) ^ 2
          + 2 * (t.a * t.b + t.c * t.d) * ((u.x - v.x) * (u.y - v.y)) := by simp only [AffZ.apply]; grind
    _ = _ := by rw [h1, h2, h3, Int.one_mul, Int.one_mul, Int.mul_zero, Int.zero_mul, Int.add_zero]

/-- right-angle placements are rigid: they preserve squared distances (no scaling, no drift) -/
theorem c12_isometry (loc : Pt) (refl : Bool) (q : Nat) (u v : Pt) :
    let t := AffZ.ofInstance loc refl q
    ((t.apply u).x - (t.apply v).x) ^ 2 + ((t.apply u).y - (t.apply v).y) ^ 2 =
      (u.x - v.x) ^ 2 + (u.y - v.y) ^ 2 := by
  have h := cosQ_sq_add_sinQ_sq q
  have hc := Int.mul_comm (cosQ q) (sinQ q)
  -- the columns are `(cos, sin)` and `±(−sin, cos)`
  refine AffZ.isometry _ ?_ ?_ ?_ u v <;> cases refl <;>
    simp only [AffZ.ofInstance, if_true, if_false, Bool.false_eq_true, Int.mul_neg, Int.neg_mul, Int.neg_neg] <;> omega

theorem flattenInsts_congr (f g : AffZ → Nat → Option (List (List Pt))) (t : AffZ) (is : List Inst)
    (h : ∀ i ∈ is, f (t.cascade (AffZ.ofInstance i.loc i.refl i.q)) i.cell = g (t.cascade (AffZ.ofInstance i.loc i.refl i.q)) i.cell) :
    flattenInsts f t is = flattenInsts g t is := by
  induction is with
  | nil => rfl
  | cons i rest ih =>
    simp only [flattenInsts]
    rw [h i (by simp), ih (fun j hj => h j (List.mem_cons_of_mem _ hj))]

theorem map_apply_cascade (t u : AffZ) (s : List (List Pt)) :
    s.map (fun e => e.map (t.cascade u).apply) = (s.map (fun e => e.map u.apply)).map (fun e => e.map t.apply) := by
  simp only [List.map_map, Function.comp_def, funext (c12_cascade_apply t u)]

theorem map_apply_id (s : List (List Pt)) : s.map (fun e => e.map AffZ.id.apply) = s := by
  have : AffZ.id.apply = id := funext fun p => by simp [AffZ.id, AffZ.apply]
  simp only [this, List.map_id_fun, id_eq, List.map_id']

/-- the instance loop commutes with the parent transform when the recursive call does -/
theorem flattenInsts_map (f : AffZ → Nat → Option (List (List Pt)))
    (hf : ∀ t ci, f t ci = (f AffZ.id ci).map (fun shapes => shapes.map (fun e => e.map t.apply))) (t : AffZ) (is : List Inst) :
    flattenInsts f t is = (flattenInsts f AffZ.id is).map (fun shapes => shapes.map (fun e => e.map t.apply)) := by
  induction is with
  | nil => rfl
  | cons i rest ih =>
    simp only [flattenInsts]
    rw [ih, hf (t.cascade _) i.cell, hf (AffZ.id.cascade _) i.cell, (c12_cascade_id _).1]
    cases f AffZ.id i.cell <;> cases flattenInsts f AffZ.id rest <;>
      simp only [Option.map_some, Option.map_none, List.map_append, map_apply_cascade]

/-- flattening under a parent transform `t` is the image under `t` of flattening in the cell's own frame, for every hierarchy
    and depth; hence each flattened shape is the image of its points under the composition of the placements on its path -/
theorem c12_flatten (cells : List Cell) : ∀ (fuel : Nat) (t : AffZ) (ci : Nat),
    flatten cells fuel t ci = (flatten cells fuel AffZ.id ci).map (fun shapes => shapes.map (fun e => e.map t.apply)) := by
  intro fuel
  induction fuel with
  | zero => intro t ci; rfl
  | succ fuel ih =>
    intro t ci
    simp only [flatten]
    cases cells[ci]? with
    | none => rfl
    | some c =>
      simp only [flattenInsts_map _ ih t c.insts]
      cases flattenInsts (flatten cells fuel) AffZ.id c.insts <;>
        simp only [Option.map_some, Option.map_none, List.map_append, map_apply_id]

-- regression witness (DESIGN §G, `Transform::from_instance`): reflect + 90° placed at (10,20) maps (3,1) to (11,23)
example : (AffZ.ofInstance ⟨10, 20⟩ true 1).apply ⟨3, 1⟩ = ⟨11, 23⟩ := by decide
-- a two-level hierarchy
example : flatten [⟨[], [⟨1, ⟨10, 0⟩, true, 1⟩]⟩, ⟨[[⟨3, 1⟩]], []⟩] 3 AffZ.id 0 = some [[⟨11, 3⟩]] := by decide

end L21.Aff
