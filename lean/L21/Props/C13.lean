import L21.Proofs.GeomCol
/-
C13 — point-in-shape answers agree with exact geometry.

Exact geometry is stated with integer cross products: `onSeg a b p` (p collinear with a, b and inside their coordinate
ranges: p on the closed segment) and the winding number `wn` (signed count of edges crossing the rightward ray, half-open
in y).  `InClosed P p`, on the boundary or non-zero winding, is the closed region the polygon covers (for simple polygons
boundary plus interior; that identification is the Jordan-curve content listed in the trusted base and cross-examined on
every run by an independent even-odd/rational oracle in the harness).
-/
namespace L21.Geom

/-- rectangle: the inclusive min/max test, in every corner order -/
theorem c13_rect (p0 p1 p : Pt) :
    rectContains p0 p1 p = true ↔
      (min p0.x p1.x ≤ p.x ∧ p.x ≤ max p0.x p1.x) ∧ (min p0.y p1.y ≤ p.y ∧ p.y ≤ max p0.y p1.y) := by
  simp [rectContains, and_assoc]

/-- the bounding-box shortcut never changes the answer: the query is true exactly on the boundary and where the winding
    number is non-zero -/
theorem c13_poly (P : List Pt) (p : Pt) : polyContains P p = true ↔ InClosed P p := by
  unfold polyContains InClosed
  cases hb : inBBox P p with
  | true => simp
  | false =>
    have hw := wn_outside hb
    have hnb : onBoundary P p = false := by
      rw [Bool.eq_false_iff]
      intro hob
      obtain ⟨e, he, hs⟩ := List.any_eq_true.1 hob
      rw [onSeg_in_bbox he hs] at hb; cases hb
    simp [hw, hnb]

/-- every point of every edge (so every vertex) is inside: the region is closed -/
theorem c13_poly_boundary (P : List Pt) (p : Pt) (e : Pt × Pt) (he : e ∈ edges P)
    (h : onSeg e.1 e.2 p = true) : polyContains P p = true := by
  rw [c13_poly]; exact Or.inl (List.any_eq_true.2 ⟨e, he, h⟩)

theorem c13_poly_vertex (P : List Pt) (v : Pt) (hv : v ∈ P) : polyContains P v = true := by
  rw [c13_poly]; exact Or.inl (onBoundary_vertex hv)

theorem c13_poly_far (P : List Pt) (p : Pt) (h : inBBox P p = false) : polyContains P p = false := by
  simp [polyContains, h]

-- regression witnesses for the two defects of `Polygon::contains` recorded in DESIGN §G (both outside points)
example : polyContains [⟨2,0⟩, ⟨4,0⟩, ⟨4,4⟩, ⟨0,4⟩, ⟨1,2⟩] ⟨0,2⟩ = false := by decide
example : polyContains [⟨0,0⟩, ⟨10,3⟩, ⟨0,6⟩] ⟨7,4⟩ = false := by decide
example : polyContains [⟨0,0⟩, ⟨10,3⟩, ⟨0,6⟩] ⟨7,3⟩ = true ∧ wn [⟨0,0⟩, ⟨10,3⟩, ⟨0,6⟩] ⟨7,3⟩ = 1 := by decide
-- clockwise orientation gives winding −1, still inside
example : wn [⟨0,0⟩, ⟨0,6⟩, ⟨10,3⟩] ⟨7,3⟩ = -1 := by decide

theorem polyContains_congr {P Q : List Pt} {p : Pt} (h : InClosed P p ↔ InClosed Q p) :
    polyContains P p = polyContains Q p := by
  rw [Bool.eq_iff_iff, c13_poly, c13_poly]; exact h

/-- C13, starting vertex -/
theorem c13_start_vertex (l1 l2 : List Pt) (p : Pt) : polyContains (l2 ++ l1) p = polyContains (l1 ++ l2) p :=
  polyContains_congr (InClosed_rotate l1 l2 p)

/-- C13, orientation: clockwise or counter-clockwise vertex order -/
theorem c13_orientation (P : List Pt) (p : Pt) : polyContains P.reverse p = polyContains P p :=
  polyContains_congr (InClosed_reverse P p)

/-- C13, repeated vertices -/
theorem c13_repeated_vertex (l1 l2 : List Pt) (v p : Pt) :
    polyContains (l1 ++ v :: v :: l2) p = polyContains (l1 ++ v :: l2) p :=
  polyContains_congr (InClosed_dup l1 l2 v p)

/-- C13, collinear vertices: an extra vertex anywhere on an edge (interior or end point) -/
theorem c13_collinear_vertex (l1 l2 : List Pt) (a m b p : Pt) (hm : onSeg a b m = true) :
    polyContains (l1 ++ a :: m :: b :: l2) p = polyContains (l1 ++ a :: b :: l2) p :=
  polyContains_congr (InClosed_collinear l1 l2 a m b p hm)

/-- the same on the closing edge, from the last vertex back to the first -/
theorem c13_collinear_vertex_closing (l : List Pt) (a m b p : Pt) (hm : onSeg a b m = true) :
    polyContains (b :: l ++ [a, m]) p = polyContains (b :: l ++ [a]) p :=
  polyContains_congr (InClosed_collinear_closing l a m b p hm)

example : onSeg ⟨0,0⟩ ⟨10,5⟩ ⟨4,2⟩ = true ∧ polyContains [⟨0,0⟩, ⟨4,2⟩, ⟨10,5⟩, ⟨0,6⟩] ⟨3,3⟩ = polyContains [⟨0,0⟩, ⟨10,5⟩, ⟨0,6⟩] ⟨3,3⟩ := by decide

/-- non-vacuity: the three rewritings of one triangle, at an interior point, a boundary point and an outside point -/
example : polyContains [⟨0,0⟩, ⟨10,3⟩, ⟨0,6⟩] ⟨7,3⟩ = true ∧ polyContains [⟨0,6⟩, ⟨10,3⟩, ⟨0,0⟩] ⟨7,3⟩ = true ∧
    polyContains [⟨10,3⟩, ⟨10,3⟩, ⟨0,6⟩, ⟨0,0⟩] ⟨7,3⟩ = true ∧ polyContains [⟨0,6⟩, ⟨0,0⟩, ⟨10,3⟩] ⟨7,4⟩ = false := by decide

theorem rect_as_polygon_norm (x0 y0 x1 y1 : Int) (p : Pt) (hx : x0 ≤ x1) (hy : y0 ≤ y1) :
    polyContains (rectPoly ⟨x0, y0⟩ ⟨x1, y1⟩) p = rectContains ⟨x0, y0⟩ ⟨x1, y1⟩ p := by
  rw [Bool.eq_iff_iff, c13_poly, InClosed_rectPoly_norm x0 y0 x1 y1 p hx hy, c13_rect]
  simp only [Int.min_eq_left hx, Int.max_eq_right hx, Int.min_eq_left hy, Int.max_eq_right hy, and_assoc]

/-- exchanging the corners' `y` reverses the 4-gon -/
theorem rect_as_polygon_swap_y {x0 y0 x1 y1 : Int} {p : Pt}
    (h : polyContains (rectPoly ⟨x0, y1⟩ ⟨x1, y0⟩) p = rectContains ⟨x0, y1⟩ ⟨x1, y0⟩ p) :
    polyContains (rectPoly ⟨x0, y0⟩ ⟨x1, y1⟩) p = rectContains ⟨x0, y0⟩ ⟨x1, y1⟩ p := by
  have : rectPoly ⟨x0, y0⟩ ⟨x1, y1⟩ = (rectPoly ⟨x0, y1⟩ ⟨x1, y0⟩).reverse := rfl
  rw [this, c13_orientation, h, rectContains, rectContains, Int.min_comm y1 y0, Int.max_comm y1 y0]

/-- exchanging their `x` reverses it and starts it two vertices on -/
theorem rect_as_polygon_swap_x {x0 y0 x1 y1 : Int} {p : Pt}
    (h : polyContains (rectPoly ⟨x1, y0⟩ ⟨x0, y1⟩) p = rectContains ⟨x1, y0⟩ ⟨x0, y1⟩ p) :
    polyContains (rectPoly ⟨x0, y0⟩ ⟨x1, y1⟩) p = rectContains ⟨x0, y0⟩ ⟨x1, y1⟩ p := by
  have h1 : rectPoly ⟨x0, y0⟩ ⟨x1, y1⟩ = [⟨x0, y0⟩, ⟨x1, y0⟩] ++ [⟨x1, y1⟩, ⟨x0, y1⟩] := rfl
  have h2 : ([⟨x1, y1⟩, ⟨x0, y1⟩] : List Pt) ++ [⟨x0, y0⟩, ⟨x1, y0⟩] = (rectPoly ⟨x1, y0⟩ ⟨x0, y1⟩).reverse := rfl
  rw [h1, ← c13_start_vertex, h2, c13_orientation, h, rectContains, rectContains, Int.min_comm x1 x0, Int.max_comm x1 x0]

/-- `Rect::to_poly`: a rectangle and its four-point polygon answer every query alike, whichever two opposite corners name it -/
theorem c13_rect_as_polygon (p0 p1 p : Pt) : polyContains (rectPoly p0 p1) p = rectContains p0 p1 p := by
  obtain ⟨x0, y0⟩ := p0
  obtain ⟨x1, y1⟩ := p1
  rcases Int.le_total x0 x1 with hx | hx <;> rcases Int.le_total y0 y1 with hy | hy
  · exact rect_as_polygon_norm x0 y0 x1 y1 p hx hy
  · exact rect_as_polygon_swap_y (rect_as_polygon_norm x0 y1 x1 y0 p hx hy)
  · exact rect_as_polygon_swap_x (rect_as_polygon_norm x1 y0 x0 y1 p hx hy)
  · exact rect_as_polygon_swap_x (rect_as_polygon_swap_y (rect_as_polygon_norm x1 y1 x0 y0 p hx hy))

example : rectPoly ⟨5, 7⟩ ⟨1, 2⟩ = [⟨5, 7⟩, ⟨1, 7⟩, ⟨1, 2⟩, ⟨5, 2⟩] ∧ polyContains (rectPoly ⟨5, 7⟩ ⟨1, 2⟩) ⟨1, 7⟩ = true ∧
    polyContains (rectPoly ⟨5, 7⟩ ⟨1, 2⟩) ⟨0, 7⟩ = false := by decide

def consec : List Pt → List (Pt × Pt)
  | [] => []
  | [_] => []
  | a :: b :: rest => (a, b) :: consec (b :: rest)

def Manhattan (pts : List Pt) : Prop := ∀ e ∈ consec pts, e.1.x = e.2.x ∨ e.1.y = e.2.y

/-- p is within half the width (laterally) of the segment `e` and between its ends -/
def segHit (w : Nat) (p : Pt) (e : Pt × Pt) : Prop :=
  let h : Int := (w : Int) / 2
  if e.1.x = e.2.x then
    (e.1.x - h ≤ p.x ∧ p.x ≤ e.1.x + h) ∧ (min e.1.y e.2.y ≤ p.y ∧ p.y ≤ max e.1.y e.2.y)
  else
    (e.1.y - h ≤ p.y ∧ p.y ≤ e.1.y + h) ∧ (min e.1.x e.2.x ≤ p.x ∧ p.x ≤ max e.1.x e.2.x)

/-- the lateral extent of a segment's rectangle, whose corners the code does not order -/
theorem band_iff {x h y : Int} (hh : 0 ≤ h) :
    (min (x - h) (x + h) ≤ y ∧ y ≤ max (x - h) (x + h)) ↔ (x - h ≤ y ∧ y ≤ x + h) := by
  omega

theorem pathSegs_cons (w : Nat) (p a c : Pt) (r : List Pt) (h : a.x = c.x ∨ a.y = c.y) :
    ∃ hit : Bool, (hit = true ↔ segHit w p (a, c)) ∧
      pathSegs w p (a :: c :: r) = if hit then .ok true else pathSegs w p (c :: r) := by
  have hw : (0 : Int) ≤ (w : Int) / 2 := Int.ediv_nonneg (Int.natCast_nonneg w) (by omega)
  by_cases hx : a.x = c.x
  · refine ⟨rectContains ⟨a.x - (w : Int) / 2, a.y⟩ ⟨a.x + (w : Int) / 2, c.y⟩ p, ?_, by simp only [pathSegs, if_pos hx]⟩
    simp only [c13_rect, segHit, if_pos hx, band_iff hw]
  · have hy : a.y = c.y := h.resolve_left hx
    refine ⟨rectContains ⟨a.x, a.y - (w : Int) / 2⟩ ⟨c.x, a.y + (w : Int) / 2⟩ p, ?_,
      by simp only [pathSegs, if_neg hx, if_pos hy]⟩
    simp only [c13_rect, segHit, if_neg hx, band_iff hw]
    exact and_comm

theorem pathSegs_spec (w : Nat) (p : Pt) : ∀ (pts : List Pt), Manhattan pts →
    ∃ b, pathSegs w p pts = .ok b ∧ (b = true ↔ ∃ e ∈ consec pts, segHit w p e)
  | [], _ => ⟨false, rfl, by simp [consec]⟩
  | [_], _ => ⟨false, rfl, by simp [consec]⟩
  | a :: c :: r, hm => by
    obtain ⟨hit, hiff, heq⟩ := pathSegs_cons w p a c r (hm (a, c) List.mem_cons_self)
    obtain ⟨b', hb', hiff'⟩ := pathSegs_spec w p (c :: r) (fun e he => hm e (List.mem_cons_of_mem _ he))
    rw [heq]
    simp only [consec, List.mem_cons, exists_eq_or_imp, ← hiff, ← hiff']
    cases hit with
    | true => exact ⟨true, rfl, by simp⟩
    | false => exact ⟨b', hb', by simp⟩

/-- Manhattan path: the answer is true exactly for the points laterally within ⌊w/2⌋ of one of its segments, between that
    segment's end points (flush ends) -/
theorem c13_path (pts : List Pt) (w : Nat) (p : Pt) (hne : pts ≠ []) (hm : Manhattan pts) :
    ∃ b, pathContains pts w p = .ok b ∧ (b = true ↔ ∃ e ∈ consec pts, segHit w p e) :=
  pathSegs_spec w p pts hm

example : Manhattan [⟨0,0⟩, ⟨4,0⟩, ⟨4,5⟩] := by
  intro e he; simp [consec] at he; rcases he with rfl | rfl <;> simp

end L21.Geom
