import L21.Proofs.RawProtoLib
import L21.Props.C17
/-
C14 — raw layout survives the trip through the protobuf schema.

Forward (raw → message → raw): shapes and net names; a layout's elements come back as the same multiset, each normalised
(`normElem`), instances and annotations in order; a library comes back with its cells in the exporter's dependency order
(C17), which the importer's name resolution needs; what is an error.
Converse (message → raw → message): a message in the form the exporter writes, cells listed before their users, comes back
the same (layout views); the exporter's output has that form, hence is a fixed point of import-then-export.
Abstract views: the forward trip, the form of the exported groups, why there is no converse.
`c14_proto_layout_roundtrip`, `c14_exported_layout_canon` (`Proofs/RawProto.lean`) and `c14_abstract` (`Proofs/RawProtoAbs.lean`)
stand where other proofs use them.
-/
namespace L21.RawProto
open L21.Geom

/-- a rectangle comes back as the same region, with corners named (min,min) / (max,max) -/
theorem c14_rect_roundtrip (net : Bytes) (p0 p1 : Pt) :
    importRects [exportRect net p0 p1] =
      .ok [(net, .rect ⟨min p0.x p1.x, min p0.y p1.y⟩ ⟨max p0.x p1.x, max p0.y p1.y⟩)] := by
  simp only [importRects, exportRect, min_add_span]

theorem c14_rect_second_trip (net : Bytes) (p0 p1 : Pt) :
    exportRect net ⟨min p0.x p1.x, min p0.y p1.y⟩ ⟨max p0.x p1.x, max p0.y p1.y⟩ = exportRect net p0 p1 := by
  simp only [exportRect, min_min_max, max_min_max]

theorem c14_rect_same_region (p0 p1 q : Pt) :
    rectContains ⟨min p0.x p1.x, min p0.y p1.y⟩ ⟨max p0.x p1.x, max p0.y p1.y⟩ q = rectContains p0 p1 q := by
  simp only [rectContains, min_min_max, max_min_max]

/-- net names come back; the empty name, excluded by `h`, reads back as no net -/
theorem c14_net_roundtrip (n : Option Bytes) (h : n ≠ some []) : optNet (netStr n) = n := by
  cases n with
  | none => simp [netStr, optNet]
  | some b =>
    have hb : b ≠ [] := fun e => h (by rw [e])
    simp [netStr, optNet, hb]

theorem c14_path_roundtrip (net : Bytes) (pts : List Pt) (w : Nat) :
    importPaths [⟨net, (w : Int), pts⟩] = .ok [(net, .path pts w)] := by
  simp [importPaths]

example : importRects [exportRect [1] ⟨3, -50⟩ ⟨1, -11⟩] = .ok [([1], .rect ⟨1, -50⟩ ⟨3, -11⟩)] := by decide

/-- a cyclic instance hierarchy is an export error, never a message -/
theorem c14_cycle_is_error (tbl : LayerTbl) (l : Lib)
    (h : Dep.order (cellAdj l.cells) (l.cells.length + 1) (List.range l.cells.length) = .cycle) :
    exportLib tbl l = .err := by
  unfold exportLib
  by_cases hu : l.units = 3
  · simp [hu]
  · simp [hu, h]

/-- picometre units, which the schema cannot express, are an error -/
theorem c14_pico_is_error (tbl : LayerTbl) (l : Lib) (h : l.units = 3) : exportLib tbl l = .err := by
  simp [exportLib, h]

/-- import of an instance of an undefined (or not-yet-defined) cell is an error -/
theorem c14_undefined_reference (known : List Bytes) (i : PInst) (rest : List PInst) (n : Bytes)
    (hr : i.ref = .localRef n) (hn : known.contains n = false) : importInsts known (i :: rest) = .err := by
  simp only [importInsts, hr]
  cases i.origin <;> cases importInsts known rest <;> simp only [hn, Bool.false_eq_true, if_false]

theorem c14_missing_fields (known : List Bytes) (i : PInst) (rest : List PInst)
    (h : i.ref = .none ∨ i.ref = .external ∨ i.origin = none) : importInsts known (i :: rest) = .err := by
  simp only [importInsts]
  rcases h with h | h | h
  · simp [h]
  · simp [h]
  · cases hr : i.ref <;> simp [h]

theorem c14_layerless_shapes (ls : LayerShapes) (h : ls.layer = none) : importLayerShapes ls = .err := by
  simp [importLayerShapes, h]

/-- no element is dropped, duplicated or moved to another layer (the grouping law on its own) -/
theorem c14_elements_roundtrip (es : List Elem) (he : es.all elemOkI = true) :
    ∃ out, importElems (groupElems es []) = .ok out ∧ out.Perm (es.map normElem) :=
  have ⟨h1, _, h3⟩ := groupElems_spec es [] rfl List.nodup_nil he
  ⟨_, importElems_ok _ (all_groupCanon_pre h1), h3⟩

/-- one layout there and back: name, instances and annotations in order, the elements as the same multiset,
    each on its layer and purpose with its net, points and width -/
theorem c14_layout_roundtrip (known : List Bytes) (l : Layout)
    (hi : ∀ i ∈ l.insts, known.contains i.cell = true) (he : l.elems.all elemOkI = true) :
    ∃ es, importLayout known (exportLayout l) = .ok ⟨l.name, l.insts.map normInst, es, l.annotations⟩ ∧
      es.Perm (l.elems.map normElem) :=
  ⟨_, importLayout_export known l hi he, tripLayout_elems l he⟩

/-- non-vacuity: two layers, three kinds, a repeated key, a named and an unnamed shape -/
example : importElems (groupElems [⟨some [110], 1, 0, .rect ⟨5, 5⟩ ⟨0, 0⟩⟩, ⟨none, 2, 0, .path [⟨0, 0⟩, ⟨4, 0⟩] 2⟩,
      ⟨none, 1, 0, .polygon [⟨0, 0⟩, ⟨3, 0⟩, ⟨0, 3⟩]⟩, ⟨none, 1, 0, .rect ⟨1, 1⟩ ⟨2, 2⟩⟩] []) =
    .ok [⟨some [110], 1, 0, .rect ⟨0, 0⟩ ⟨5, 5⟩⟩, ⟨none, 1, 0, .rect ⟨1, 1⟩ ⟨2, 2⟩⟩, ⟨none, 1, 0, .polygon [⟨0, 0⟩, ⟨3, 0⟩, ⟨0, 3⟩]⟩,
      ⟨none, 2, 0, .path [⟨0, 0⟩, ⟨4, 0⟩] 2⟩] := by decide

/-- the round trip's normal form is stable under a further trip -/
theorem c14_norm_idempotent (e : Elem) : normElem (normElem e) = normElem e := by
  obtain ⟨n, l, p, s⟩ := e
  simp only [normElem, netStr_optNet]
  congr 1
  cases s with
  | rect p0 p1 => simp only [normShape, min_min_max, max_min_max]
  | polygon pts => rfl
  | path pts w => rfl
/-- non-vacuity: a flipped rectangle with an empty net name is changed by the first trip only -/
example : normElem ⟨some [], 1, 0, .rect ⟨5, 0⟩ ⟨0, 5⟩⟩ = ⟨none, 1, 0, .rect ⟨0, 0⟩ ⟨5, 5⟩⟩ ∧
    normElem ⟨none, 1, 0, .rect ⟨0, 0⟩ ⟨5, 5⟩⟩ = ⟨none, 1, 0, .rect ⟨0, 0⟩ ⟨5, 5⟩⟩ := by decide

/-- the exporter's order is the C17 orderer's: every instantiated cell's index occurs strictly earlier -/
theorem c14_export_order (cells : List Cell) (order : List Nat)
    (h : Dep.order (cellAdj cells) (cells.length + 1) (List.range cells.length) = .ok order) :
    order.Nodup ∧ (∀ i, i < cells.length → i ∈ order) ∧
    (∀ l1 x l2, order = l1 ++ x :: l2 → ∀ d ∈ cellAdj cells x, d ∈ l1) := by
  obtain ⟨h1, _, h3⟩ := Dep.c17_sound (cellAdj cells) _ _ _ h
  exact ⟨h1, fun i hi => Dep.order_mem h i (List.mem_range.2 hi), h3⟩

/-- the whole library: importing the exported message returns name, units and the cells in the exporter's dependency order
    (C17), each with its layout (`layoutEq`) and its abstract view (per layer the same shapes grouped by kind, `normAbs`) -/
theorem c14_library (tbl : LayerTbl) (l : Lib) (p : PLib) (hu : l.units ≤ 3)
    (hp : exportLib tbl l = .ok p) (hnd : noDangling l.cells) (hrng : ∀ c ∈ l.cells, cellRangeOk tbl c) :
    ∃ order cs', Dep.order (cellAdj l.cells) (l.cells.length + 1) (List.range l.cells.length) = .ok order ∧
      importLib p = .ok ⟨l.name, l.units, cs'⟩ ∧ cellsEq cs' (order.filterMap (fun i => l.cells[i]?)) := by
  obtain ⟨order, ho, h⟩ := importLib_export tbl l p hu hp hnd hrng
  exact ⟨order, _, ho, h, cellsEq_map tripCell _ fun c hc => cellEq_trip c (hrng c (mem_of_mem_listed hc)).1⟩

/-- non-vacuity: a cell with a layout and an abstract, instantiated by a second cell listed first -/
def demoA : Cell :=
  ⟨[65], some ⟨[65], [], [⟨some [110], 1, 0, .rect ⟨4, 4⟩ ⟨0, 0⟩⟩, ⟨none, 1, 0, .path [⟨0, 0⟩, ⟨9, 0⟩] 2⟩], [([116], ⟨1, 1⟩)]⟩,
    some ⟨[65], [⟨0, 0⟩, ⟨9, 0⟩, ⟨9, 9⟩], [⟨[112], [(1, [.rect ⟨0, 0⟩ ⟨1, 1⟩]), (2, [.polygon [⟨0, 0⟩, ⟨1, 0⟩, ⟨0, 1⟩], .rect ⟨2, 2⟩ ⟨1, 1⟩])]⟩], [(1, [])]⟩⟩
def demoB : Cell := ⟨[84], some ⟨[84], [⟨[105], [65], ⟨5, 6⟩, true, some 90⟩], [], []⟩, none⟩
def demoLibP : Lib := ⟨[76], 1, [demoB, demoA]⟩
def demoTbl : LayerTbl := [(1, some 7, some 8), (2, some 7, some 8)]

example : noDangling demoLibP.cells := by
  intro c hc lay hl i hi
  simp only [demoLibP, List.mem_cons, List.not_mem_nil, or_false] at hc
  rcases hc with rfl | rfl
  · simp only [demoB, Option.some.injEq] at hl; subst hl
    simp only [List.mem_singleton] at hi; subst hi
    exact ⟨demoA, List.mem_cons_of_mem _ List.mem_cons_self, rfl⟩
  · simp only [demoA, Option.some.injEq] at hl; subst hl; cases hi

theorem demoA_rangeOk : cellRangeOk demoTbl demoA :=
  ⟨by intro lay hl; cases hl; decide, by intro a ha; cases ha; decide⟩
theorem demoB_rangeOk : cellRangeOk demoTbl demoB :=
  ⟨by intro lay hl; cases hl; rfl, by intro a ha; cases ha⟩

example : ∀ c ∈ demoLibP.cells, cellRangeOk demoTbl c := by
  simp [demoLibP, demoA_rangeOk, demoB_rangeOk]

/-- the same cells in dependency order export and come back (the cell-list theorem on its own) -/
example : ∃ pcs cs', exportCells demoTbl [demoA, demoB] = .ok pcs ∧ importCells [] pcs = .ok cs' ∧ cellsEq cs' [demoA, demoB] := by
  have hr : ∀ c ∈ [demoA, demoB], cellRangeOk demoTbl c := by simp [demoA_rangeOk, demoB_rangeOk]
  cases h : exportCells demoTbl [demoA, demoB] with
  | ok pcs =>
    exact ⟨pcs, _, rfl, importCells_export demoTbl _ pcs [] h hr
      ⟨fun l hl i hi => (by cases hl; cases hi), fun l hl i hi => (by cases hl; cases List.mem_singleton.1 hi; decide), trivial⟩,
      cellsEq_map tripCell _ fun c hc => cellEq_trip c (hr c hc).1⟩
  | err => exact absurd h (by decide)

/-- the exporter's dependency order of a library whose cells are listed before their users is the listing itself:
    re-export of an imported message keeps the order the message had -/
theorem c14_reexport_keeps_cell_order (tbl : LayerTbl) (l : Lib) (h : ListedBeforeUsers l.cells) (hu : l.units ≠ 3) :
    exportLib tbl l = (match exportCells tbl l.cells with | .ok cs => .ok ⟨l.name, (l.units : Int), cs⟩ | .err => .err) := by
  have hord := Dep.c17_range_sorted (cellAdj l.cells) l.cells.length h
  unfold exportLib
  simp only [hu, if_false, hord]
  rw [range_filterMap_getElem l.cells]
  cases exportCells tbl l.cells <;> rfl

/-- non-vacuity of the converse: a two-group message layout is its own round trip -/
example : ∃ l, importLayout [[66]] ⟨[76], [⟨[105], .localRef [66], some ⟨3, 4⟩, true, 90⟩],
      [⟨some (1, 0), [⟨[110], some ⟨0, 0⟩, 5, 5⟩], [⟨[], [⟨0, 0⟩, ⟨3, 0⟩, ⟨0, 3⟩]⟩], []⟩, ⟨some (2, 0), [], [], [⟨[], 2, [⟨0, 0⟩, ⟨4, 0⟩]⟩]⟩],
      [([116], some ⟨1, 1⟩)]⟩ = .ok l ∧ exportLayout l = ⟨[76], [⟨[105], .localRef [66], some ⟨3, 4⟩, true, 90⟩],
      [⟨some (1, 0), [⟨[110], some ⟨0, 0⟩, 5, 5⟩], [⟨[], [⟨0, 0⟩, ⟨3, 0⟩, ⟨0, 3⟩]⟩], []⟩, ⟨some (2, 0), [], [], [⟨[], 2, [⟨0, 0⟩, ⟨4, 0⟩]⟩]⟩],
      [([116], some ⟨1, 1⟩)]⟩ :=
  c14_proto_layout_roundtrip _ _ ⟨by decide, by decide, by decide, by decide⟩

/-- the converse trip (layout views): a message library in the exporter's form, cells listed before their users,
    converts to raw and back to the same message -/
theorem c14_message_roundtrip_layouts (tbl : LayerTbl) (p : PLib) (hu : 0 ≤ p.units ∧ p.units ≤ 2) (h : MsgOk [] p.cells) :
    ∃ l, importLib p = .ok l ∧ exportLib tbl l = .ok p := by
  obtain ⟨cs, hi, he, hk⟩ := importCells_back tbl p.cells [] h
  refine ⟨⟨p.domain, p.units.toNat, cs⟩, ?_, ?_⟩
  · unfold importLib
    have : ¬ (p.units < 0 ∨ 2 < p.units) := by omega
    simp [this, hi]
  · rw [c14_reexport_keeps_cell_order tbl ⟨p.domain, p.units.toNat, cs⟩ (listedBeforeUsers_of_instsKnown cs hk) (by simp only; omega)]
    simp only [he]
    obtain ⟨dom, units, cells⟩ := p
    simp only at hu ⊢
    congr 2
    omega

/-! non-vacuity: two cells, the second instantiates the first -/
example : ∃ l, importLib ⟨[76], 1, [⟨[65], some ⟨[65], [], [⟨some (1, 0), [⟨[110], some ⟨0, 0⟩, 5, 5⟩], [], []⟩], [([116], some ⟨1, 1⟩)]⟩, none⟩,
      ⟨[66], some ⟨[66], [⟨[105], .localRef [65], some ⟨3, 4⟩, true, 90⟩], [], []⟩, none⟩]⟩ = .ok l ∧
    exportLib [] l = .ok ⟨[76], 1, [⟨[65], some ⟨[65], [], [⟨some (1, 0), [⟨[110], some ⟨0, 0⟩, 5, 5⟩], [], []⟩], [([116], some ⟨1, 1⟩)]⟩, none⟩,
      ⟨[66], some ⟨[66], [⟨[105], .localRef [65], some ⟨3, 4⟩, true, 90⟩], [], []⟩, none⟩]⟩ :=
  c14_message_roundtrip_layouts [] _ (by decide) ⟨rfl, fun lay hl => by
      simp only [Option.some.injEq] at hl; subst hl; exact ⟨by decide, by decide, by decide, by decide⟩,
    rfl, fun lay hl => by
      simp only [Option.some.injEq] at hl; subst hl; exact ⟨by decide, by decide, by decide, by decide⟩, trivial⟩

/-- export ∘ import ∘ export = export on a layout's shapes: the imported groups regroup to the same groups in the same order -/
theorem c14_regroup_idempotent (es : List Elem) (he : es.all elemOkI = true) :
    ∃ out, importElems (groupElems es []) = .ok out ∧ groupElems out [] = groupElems es [] := by
  obtain ⟨hc, hn⟩ := groupElems_canon es [] rfl List.nodup_nil he
  exact ⟨_, importElems_ok _ (all_groupCanon_pre hc), regroup _ [] hc hn⟩

/-- non-vacuity: a repeated key, three kinds, a flipped rectangle — regrouped to the same two groups -/
example : ∃ out, importElems (groupElems [⟨some [110], 1, 0, .rect ⟨5, 5⟩ ⟨0, 0⟩⟩, ⟨none, 2, 0, .path [⟨0, 0⟩, ⟨4, 0⟩] 2⟩,
      ⟨none, 1, 0, .polygon [⟨0, 0⟩, ⟨3, 0⟩, ⟨0, 3⟩]⟩, ⟨none, 1, 0, .rect ⟨1, 1⟩ ⟨2, 2⟩⟩] []) = .ok out ∧
    groupElems out [] = groupElems [⟨some [110], 1, 0, .rect ⟨5, 5⟩ ⟨0, 0⟩⟩, ⟨none, 2, 0, .path [⟨0, 0⟩, ⟨4, 0⟩] 2⟩,
      ⟨none, 1, 0, .polygon [⟨0, 0⟩, ⟨3, 0⟩, ⟨0, 3⟩]⟩, ⟨none, 1, 0, .rect ⟨1, 1⟩ ⟨2, 2⟩⟩] [] :=
  c14_regroup_idempotent _ (by decide)

/-- the message the exporter writes for a layout is a fixed point of import-then-export -/
theorem c14_export_fixed_point (known : List Bytes) (l : Layout)
    (hi : ∀ i ∈ l.insts, known.contains i.cell = true) (he : l.elems.all elemOkI = true) :
    ∃ l', importLayout known (exportLayout l) = .ok l' ∧ exportLayout l' = exportLayout l :=
  c14_proto_layout_roundtrip known (exportLayout l) (c14_exported_layout_canon known l hi he)

/-- whole library (layout views, listed dependencies-first): export succeeds, the message imports, and exporting what
    was imported gives the same message -/
theorem c14_library_export_fixed_point (tbl : LayerTbl) (l : Lib) (hu : l.units ≤ 2) (h : LibOk [] l.cells) :
    ∃ p l', exportLib tbl l = .ok p ∧ importLib p = .ok l' ∧ exportLib tbl l' = .ok p := by
  obtain ⟨pcs, he, hm⟩ := exportCells_msgOk tbl l.cells [] h
  have hlisted := listedBeforeUsers_of_instsKnown l.cells ((libOk_iff _ _).1 h).1
  have hexp : exportLib tbl l = .ok ⟨l.name, (l.units : Int), pcs⟩ := by
    rw [c14_reexport_keeps_cell_order tbl l hlisted (by omega)]; simp [he]
  obtain ⟨l', hi, he'⟩ := c14_message_roundtrip_layouts tbl ⟨l.name, (l.units : Int), pcs⟩ (by constructor <;> simp <;> omega) hm
  exact ⟨_, l', hexp, hi, he'⟩

/-- non-vacuity: two cells, the second instantiates the first; shapes on two layers with a repeated key -/
example : LibOk [] [⟨[65], some ⟨[65], [], [⟨some [110], 1, 0, .rect ⟨5, 5⟩ ⟨0, 0⟩⟩, ⟨none, 2, 0, .path [⟨0, 0⟩, ⟨4, 0⟩] 2⟩,
      ⟨none, 1, 0, .polygon [⟨0, 0⟩, ⟨3, 0⟩, ⟨0, 3⟩]⟩], [([116], ⟨1, 1⟩)]⟩, none⟩,
    ⟨[66], some ⟨[66], [⟨[105], [65], ⟨3, 4⟩, true, some 90⟩], [], []⟩, none⟩] := by
  refine ⟨rfl, ?_, rfl, ?_, trivial⟩
  · intro lay h; cases h; exact ⟨by simp, by decide⟩
  · intro lay h; cases h; exact ⟨by simp, by decide⟩

/-- every shape group the exporter writes for ports / blockages has an in-range key (its numbers are the table's), rectangles
    with a corner and non-negative sizes, paths with non-negative widths; a layer without shapes gives an empty group, hence
    `groupPre`, not `groupCanon` -/
theorem c14_abstract_groups_canon (tbl : LayerTbl) (pin : Bool)
    (ht : ∀ r ∈ tbl, inI16 r.1 = true ∧ (∀ n, r.2.1 = some n → inI16 n = true) ∧ (∀ n, r.2.2 = some n → inI16 n = true)) :
    ∀ (m : List (Int × List Shape)) (gs : List LayerShapes), exportLayerMap tbl pin m = .ok gs → gs.all groupPre = true := by
  intro m
  induction m with
  | nil => intro gs h; cases h; rfl
  | cons x r ih =>
    intro gs h
    obtain ⟨row, pn, more, hrow, hpn, hmore, rfl⟩ := exportLayerMap_cons_eq_ok h
    obtain ⟨h1, h2, h3⟩ := ht row (List.mem_of_find?_eq_some hrow)
    have hln : row.1 = x.1 := by simpa using List.find?_some hrow
    have hpn' : inI16 pn = true := by
      cases pin with
      | true => exact h2 pn hpn
      | false => exact h3 pn hpn
    simp only [List.all_cons, Bool.and_eq_true]
    exact ⟨(shapesOf_pre (x.1, pn) x.2 (hln ▸ h1) hpn').1, ih more hmore⟩
/-- non-vacuity: one port layer with a flipped rectangle and a path -/
example : exportLayerMap [(5, some 7, some 8)] true [(5, [.rect ⟨4, 4⟩ ⟨0, 1⟩, .path [⟨0, 0⟩, ⟨3, 0⟩] 2])] =
    .ok [⟨some (5, 7), [⟨[], some ⟨0, 1⟩, 4, 3⟩], [], [⟨[], 2, [⟨0, 0⟩, ⟨3, 0⟩]⟩]⟩] := by decide

/-! No converse for abstract views (known finding `c14-abstract-purpose-*`): the raw abstract keeps only the layer number
    of a port / blockage group, so two messages that differ in the purpose number alone import to the same raw abstract and
    no exporter gives both back.  The witnesses are the pinned cases the run replays on the real code. -/
def absP101 : PAbs := ⟨[99, 48], some ⟨[], [⟨0, 0⟩, ⟨10, 0⟩, ⟨10, 10⟩, ⟨0, 10⟩]⟩, [], [⟨some (2, 101), [⟨[], some ⟨1, 1⟩, 2, 2⟩], [], []⟩]⟩
def absP100 : PAbs := ⟨[99, 48], some ⟨[], [⟨0, 0⟩, ⟨10, 0⟩, ⟨10, 10⟩, ⟨0, 10⟩]⟩, [], [⟨some (2, 100), [⟨[], some ⟨1, 1⟩, 2, 2⟩], [], []⟩]⟩
theorem c14_converse_fails_on_second_purpose_number :
    absP101 ≠ absP100 ∧ importAbs absP101 = importAbs absP100 ∧ (∃ a, importAbs absP101 = .ok a) := by
  refine ⟨by decide, by decide, ?_⟩
  cases h : importAbs absP101 with
  | ok a => exact ⟨a, rfl⟩
  | err => exact absurd h (by decide)
/-- hence no re-export, whatever layer table it is given, returns both messages -/
theorem c14_converse_no_exporter (tbl : LayerTbl) :
    ¬ (∀ a r, importAbs a = .ok r → a = absP101 ∨ a = absP100 → exportAbs tbl r = .ok a) := by
  intro h
  obtain ⟨hne, heq, r, hr⟩ := c14_converse_fails_on_second_purpose_number
  have h1 := h absP101 r hr (Or.inl rfl)
  have h2 := h absP100 r (heq ▸ hr) (Or.inr rfl)
  rw [h1] at h2
  exact hne (Out.ok.inj h2)

end L21.RawProto
