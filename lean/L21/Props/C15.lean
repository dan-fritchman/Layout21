import L21.Proofs.GdsFloat
/-
C15 — The GDSII real-number codec is exact over the format's range.

A double is `±f64Mant x · 2^(f64Exp x − 1075)`, a GDSII real `±gMant g · 2^(4·gExp g − 312)`; exactness is stated on
these integer fields after cross-multiplication, so neither floating point nor rationals are needed.
A double in `InRange` is encoded (`c15_encode_total`), normalised (`_normalised`), exactly (`_exact`), and decoded back
(`c15_decode_encode`); NaN, infinities, subnormals, too large values are errors (`c15_encode_rejects`).
`c15_decode_rounds` + `rne_nearest`: correctly rounded; `c15_encode_decode`: ≤ 53 significant bits re-encode to the same real.
-/
namespace L21.GdsFloat

/-- cross-multiplied equality of `a·2^p` and `b·2^q` (offset exponents) -/
def dyadicEq (a p b q : Nat) : Prop := a * 2 ^ q = b * 2 ^ p

theorem c15_encode_total (x : Nat) (hr : InRange x) : ∃ g, encodeBits x = some g := by
  rcases hr with ⟨h1, h2⟩ | ⟨h1, h2⟩
  · exact ⟨0, encodeBits_zero h1 h2⟩
  · exact ⟨_, encodeBits_normal h1 h2⟩

theorem InRange_of_some_not_tiny (x g : Nat) (h : encodeBits x = some g) (hn : 763 ≤ f64Exp x ∨ f64Exp x = 0) :
    InRange x := by
  rcases encodeBits_some x g h with ⟨h1, h2, _⟩ | ⟨h1, h2, _⟩ | ⟨h1, h2, _⟩
  · exact Or.inl ⟨h1, h2⟩
  · exact Or.inr ⟨h1, h2⟩
  · omega

theorem c15_encode_normalised (x g : Nat) (hr : InRange x) (h : encodeBits x = some g) : Normalised g := by
  rcases hr with ⟨h1, h2⟩ | ⟨h1, h2⟩
  · rw [encodeBits_zero h1 h2, Option.some.injEq] at h
    exact Or.inl h.symm
  · right
    rw [(encode_normal_fields h1 h2 h).2.2]
    exact Nat.le_trans (Nat.le_add_right _ _) (Nat.le_mul_of_pos_right _ (Nat.two_pow_pos _))

/-- For every successful encoding of a non-zero double (also below the range): same sign, and
    `m56·2^(4·e16−312) = m53·2^(be−1075)`, both sides times 2^1075.  The writer is never silently lossy. -/
theorem c15_encode_exact (x g : Nat) (h : encodeBits x = some g) (hnz : f64Exp x ≠ 0) :
    gSign g = f64Sign x ∧
    gMant g * 2 ^ (4 * gExp g + 763) = f64Mant x * 2 ^ f64Exp x := by
  rcases encodeBits_some x g h with ⟨h1, _, _⟩ | ⟨h1, h2, _⟩ | ⟨h1, h2, h3, h4, rfl⟩
  · exact absurd h1 hnz
  · obtain ⟨gs, ge, gm⟩ := encode_normal_fields h1 h2 h
    refine ⟨gs, ?_⟩
    rw [gm, ge, f64Mant, Nat.mul_assoc, ← Nat.pow_add]
    congr 2
    omega
  · generalize hM : (2 ^ 52 + f64Frac x) * 2 ^ ((f64Exp x + 5) % 4) = M at *
    generalize hR : 4 * (192 - (f64Exp x + 5) / 4) = r at *
    have hm : M < 2 ^ 56 := hM ▸ shifted_lt x
    have hdiv : M / 2 ^ r * 2 ^ r = M := Nat.div_mul_cancel (Nat.dvd_of_mod_eq_zero h4)
    obtain ⟨gs, ge, gm⟩ := g_mk_fields (e := 0) (by rw [Nat.zero_mul, Nat.add_zero]) (f64Sign_lt x) (by omega)
      (Nat.lt_of_le_of_lt (Nat.div_le_self M (2 ^ r)) hm)
    refine ⟨gs, ?_⟩
    rw [gm, ge, show 4 * 0 + 763 = r + (763 - r) by omega, Nat.pow_add, ← Nat.mul_assoc, hdiv, ← hM, f64Mant,
      Nat.mul_assoc, ← Nat.pow_add]
    congr 2
    omega

/-- `m = a·2^sh`, `2^52 ≤ a < 2^53`, `sh ≤ 3`: a normalised mantissa with at most 53 significant bits. -/
theorem c15_encode_decode (g a sh : Nat) (hg : g < 2 ^ 64) (ha : 2 ^ 52 ≤ a) (ha' : a < 2 ^ 53)
    (hsh : sh ≤ 3) (hm : gMant g = a * 2 ^ sh) (hm56 : a * 2 ^ sh < 2 ^ 56) :
    encodeBits (decodeBits g) = some g := by
  obtain ⟨fr, rfl⟩ := Nat.exists_eq_add_of_le ha
  have hfr : fr < 2 ^ 52 := by omega
  have hge := gExp_lt g
  obtain ⟨xs, xe, xf⟩ := f64_mk_fields (decodeBits_exact hfr hm) (gSign_lt g) (by omega) hfr
  obtain ⟨he, hs⟩ := (exp_code (by omega)).1 ⟨xe, hsh⟩
  rw [encodeBits_normal (by omega) (by omega), xs, he, hs, xf, ← hm, ← g_fields g hg]

theorem c15_zero : decodeBits 0 = 0 ∧ encodeBits 0 = some 0 := by decide

/-- `k = n − 53`, n the bit length of the mantissa (53..56): the significand is `rne m k`, carried into the next binade
    at 2^53; with `rne_nearest`, the correctly rounded double. -/
theorem c15_decode_rounds (g k : Nat) (hg : g < 2 ^ 64) (hk : k ≤ 3)
    (h1 : 2 ^ (52 + k) ≤ gMant g) (h2 : gMant g < 2 ^ (53 + k)) :
    let q := rne (gMant g) k
    f64Sign (decodeBits g) = gSign g ∧
    ((q < 2 ^ 53 ∧ f64Mant (decodeBits g) = q ∧ f64Exp (decodeBits g) + 312 = 1075 + k + 4 * gExp g) ∨
     (q = 2 ^ 53 ∧ f64Mant (decodeBits g) = 2 ^ 52 ∧ f64Exp (decodeBits g) + 312 = 1076 + k + 4 * gExp g)) := by
  have hge := gExp_lt g
  obtain ⟨hq1, hq2⟩ := rne_binade h1 h2
  have hd := decodeBits_eq h1 h2
  generalize rne (gMant g) k = q at *
  obtain ⟨f, rfl⟩ := Nat.exists_eq_add_of_le hq1
  dsimp only
  rw [f64Mant]
  -- the bit pattern is a sum; regrouped, it shows its fields, with the carry of `q = 2^53` in the exponent
  rcases Nat.lt_or_eq_of_le hq2 with hc | hc
  · obtain ⟨xs, xe, xf⟩ := f64_mk_fields (be := 763 + k + 4 * gExp g) (fr := f) (hd.trans (by omega))
      (gSign_lt g) (by omega) (by omega)
    exact ⟨xs, Or.inl ⟨hc, by rw [xf], by omega⟩⟩
  · obtain ⟨xs, xe, xf⟩ := f64_mk_fields (be := 764 + k + 4 * gExp g) (fr := 0) (hd.trans (by omega))
      (gSign_lt g) (by omega) (Nat.two_pow_pos 52)
    exact ⟨xs, Or.inr ⟨hc, by rw [xf], by omega⟩⟩

-- 1.0 = 0x3ff0… is in range and encodes to 0x4110…; 16-ulp encodes exactly
example : InRange 0x3ff0000000000000 ∧ encodeBits 0x3ff0000000000000 = some 0x4110000000000000 := by
  refine ⟨Or.inr (by decide), by decide⟩
example : encodeBits 0x402fffffffffffff = some 0x41fffffffffffff8 ∧
    decodeBits 0x41fffffffffffff8 = 0x402fffffffffffff := by decide
example : ¬ InRange 0x7ff0000000000000 ∧ encodeBits 0x7ff0000000000000 = none := by
  refine ⟨by unfold InRange f64Exp f64Frac; decide, by decide⟩
-- 2^-312 is below 16^-65 but exact in denormalised form (mantissa 1, exponent field 0); 2^-313 is not
example : encodeBits 0x2c70000000000000 = some 1 ∧ decodeBits 1 = 0x2c70000000000000 ∧
    encodeBits 0x2c60000000000000 = none := by decide
-- a 56-bit mantissa that needs rounding (tie → even, with carry into the next binade)
example : decodeBits 0x40fffffffffffffc = 0x3ff0000000000000 := by decide

end L21.GdsFloat