import L21.Model.LefRaw
import L21.Proofs.ListFacts
/-
C16 — importing LEF into the raw model keeps every coordinate in place.
-/
namespace L21.LefRaw
open L21.Geom

/-- a coordinate is imported iff it is a whole number of raw units, and then it is value × 10 000:
    n · 10^scale = mant · 10 000 -/
theorem c16_exact (d : Dec) (n : Int) :
    importDist d = .ok n ↔ n * (10 : Int) ^ d.scale = d.mant * unitsPerMicron := by
  unfold importDist
  have hp : (0 : Int) < 10 ^ d.scale := Int.pow_pos (by omega)
  constructor
  · intro h
    by_cases hd : d.mant * unitsPerMicron % (10 : Int) ^ d.scale = 0
    · simp [hd] at h; subst h
      exact Int.ediv_mul_cancel (Int.dvd_of_emod_eq_zero hd)
    · simp [hd] at h
  · intro h
    have hd : d.mant * unitsPerMicron % (10 : Int) ^ d.scale = 0 := by
      rw [← h]; exact Int.mul_emod_left _ _
    simp [hd]
    rw [← h]; exact Int.mul_ediv_cancel _ (by omega)

/-- a coordinate that is not a whole number of raw units is an error, never rounded -/
theorem c16_not_rounded (d : Dec) :
    importDist d = .err ↔ ¬ ((10 : Int) ^ d.scale ∣ d.mant * unitsPerMicron) := by
  unfold importDist
  constructor
  · intro h hdvd
    have := Int.emod_eq_zero_of_dvd hdvd
    simp [this] at h
  · intro h
    have : ¬ (d.mant * unitsPerMicron % (10 : Int) ^ d.scale = 0) := fun e => h (Int.dvd_of_emod_eq_zero e)
    simp [this]

/-- the equation of `c16_exact` moves along equal values m / P = m' / P': multiply by P, regroup, cancel -/
theorem exact_transfer {m m' U P P' n : Int} (hP : 0 < P) (h : m * P' = m' * P) (hn : n * P = m * U) : n * P' = m' * U := by
  apply Int.eq_of_mul_eq_mul_right (Int.ne_of_gt hP)
  rw [Int.mul_right_comm, hn, Int.mul_right_comm, h, Int.mul_right_comm]

/-- the result does not depend on how many decimal digits the number was written with: two decimals with the same value
    (1.5 = 1.50 = 1.500…) import identically -/
theorem c16_scale_invariant (d d' : Dec) (h : d.mant * (10 : Int) ^ d'.scale = d'.mant * (10 : Int) ^ d.scale) :
    importDist d = importDist d' := by
  have key : ∀ n, importDist d = .ok n ↔ importDist d' = .ok n := fun n => by
    rw [c16_exact, c16_exact]
    exact ⟨exact_transfer (Int.pow_pos (by omega)) h, exact_transfer (Int.pow_pos (by omega)) h.symm⟩
  cases hr : importDist d with
  | ok n => exact ((key n).1 hr).symm
  | err => cases hr' : importDist d' with
    | ok n => rw [(key n).2 hr'] at hr; cases hr
    | err => rfl

/-- x and y are kept distinct: each coordinate of an imported point comes from its own LEF number -/
theorem c16_point_xy (p : LPt) (q : Pt) (h : importPoint p = .ok q) :
    importDist p.x = .ok q.x ∧ importDist p.y = .ok q.y := by
  unfold importPoint at h
  cases hx : importDist p.x <;> cases hy : importDist p.y <;> simp [hx, hy] at h
  subst h; exact ⟨rfl, rfl⟩

/-- the outline of an imported macro is its SIZE rectangle at the origin -/
theorem c16_outline (m : Macro) (a : Abstract) (h : importMacro m = .ok a) :
    ∃ sx sy X Y, m.size = some (sx, sy) ∧ importDist sx = .ok X ∧ importDist sy = .ok Y ∧
      a.name = m.name ∧ a.outline = [⟨0, 0⟩, ⟨X, 0⟩, ⟨X, Y⟩, ⟨0, Y⟩] := by
  unfold importMacro at h
  cases hs : m.size with
  | none => simp [hs] at h
  | some sz =>
    obtain ⟨sx, sy⟩ := sz
    simp only [hs] at h
    cases hp : importPoint ⟨sx, sy⟩ with
    | err => simp [hp] at h
    | ok q =>
      obtain ⟨hx, hy⟩ := c16_point_xy ⟨sx, sy⟩ q hp
      simp only [hp] at h
      cases h1 : importPins m.pins with
      | err => simp [h1] at h
      | ok ports =>
        cases h2 : importLayerList [] m.obs with
        | err => simp [h1, h2] at h
        | ok blk =>
          simp [h1, h2] at h; subst h
          exact ⟨sx, sy, q.x, q.y, rfl, hx, hy, rfl, rfl⟩

/-- one shape per LEF rectangle, polygon and path, each imported on its own, in the same order -/
theorem importGeoms_iff (lg : LayerGeoms) (gs : List LGeom) (ss : List Shape) :
    importGeoms lg gs = .ok ss ↔ gs.map (importGeom lg) = ss.map .ok :=
  traverse_iff (fun _ => by simp [importGeoms, eq_comm]) fun g r ss => by
    rw [importGeoms]; cases importGeom lg g <;> cases importGeoms lg r <;> simp [eq_comm]

/-- a LAYER block that imports keeps its layer name and gives as many shapes as it has geometries; that the i-th
    shape is the import of the i-th geometry is `importGeoms_iff` -/
theorem c16_one_shape_per_geometry (lg : LayerGeoms) (l : List Nat) (ss : List Shape)
    (h : importLayerGeoms lg = .ok (l, ss)) : l = lg.layer ∧ ss.length = lg.geoms.length := by
  -- whatever the guards say, a success can only be the last branch
  have fin : (match importGeoms lg lg.geoms with | .ok ss => Out.ok (lg.layer, ss) | .err => .err) = .ok (l, ss) →
      l = lg.layer ∧ ss.length = lg.geoms.length := fun h => by
    cases h2 : importGeoms lg lg.geoms with
    | err => simp [h2] at h
    | ok ss' =>
      simp only [h2, Out.ok.injEq, Prod.mk.injEq] at h
      obtain ⟨rfl, rfl⟩ := h
      exact ⟨rfl, (length_eq_of_map_eq_map ((importGeoms_iff lg _ _).1 h2)).symm⟩
  unfold importLayerGeoms at h
  split at h
  · cases h
  · split at h
    · exact fin h
    · dsimp only at h
      split at h
      · cases h
      · exact fin h
    · cases h

/-- every coordinate of a rectangle is the LEF value × 10 000 (polygon and path vertices go through the same
    `importPoint`; of them only `c16_point_xy` speaks) -/
theorem c16_rect_coords (lg : LayerGeoms) (p0 p1 : LPt) (s : Shape) (h : importGeom lg (.rect p0 p1) = .ok s) :
    ∃ a b, s = .rect a b ∧ importDist p0.x = .ok a.x ∧ importDist p0.y = .ok a.y ∧
      importDist p1.x = .ok b.x ∧ importDist p1.y = .ok b.y := by
  simp only [importGeom] at h
  cases h0 : importPoint p0 <;> cases h1 : importPoint p1 <;> simp [h0, h1] at h
  rename_i a b
  obtain ⟨ax, ay⟩ := c16_point_xy p0 a h0
  obtain ⟨bx, by'⟩ := c16_point_xy p1 b h1
  exact ⟨a, b, h.symm, ax, ay, bx, by'⟩

-- 1.5 µm = 15000 units whatever the spelling; 1.23456 µm is not a whole number of units
example : importDist ⟨15, 1⟩ = .ok 15000 ∧ importDist ⟨150, 2⟩ = .ok 15000 ∧ importDist ⟨1500000, 6⟩ = .ok 15000 := by decide
example : importDist ⟨123456, 5⟩ = .err ∧ importDist ⟨-25, 2⟩ = .ok (-2500) := by decide
example : importPoint ⟨⟨1, 0⟩, ⟨25, 1⟩⟩ = .ok ⟨10000, 25000⟩ := by decide

def shapesFor (m : List (List Nat × List Shape)) (L : List Nat) : List Shape :=
  match m.find? (fun e => e.1 == L) with
  | some e => e.2
  | none => []

theorem shapesFor_cons (l : List Nat) (old : List Shape) (rest : List (List Nat × List Shape)) (L : List Nat) :
    shapesFor ((l, old) :: rest) L = if l = L then old else shapesFor rest L := by
  unfold shapesFor
  rw [List.find?_cons]
  by_cases h : l = L
  · rw [if_pos h, beq_iff_eq.2 h]
  · rw [if_neg h, beq_eq_false_iff_ne.2 h]

theorem shapesFor_addShapes (m : List (List Nat × List Shape)) (layer L : List Nat) (ss : List Shape) :
    shapesFor (addShapes m layer ss) L = shapesFor m L ++ (if layer = L then ss else []) := by
  induction m with
  | nil => rw [addShapes, shapesFor_cons]; rfl
  | cons e rest ih =>
    obtain ⟨l, old⟩ := e
    rw [addShapes]
    split
    · rename_i hl
      rw [shapesFor_cons, shapesFor_cons, ← hl]
      split <;> simp
    · rename_i hl
      rw [shapesFor_cons, shapesFor_cons, ih]
      split
      · rename_i hL; rw [if_neg (fun e => hl (hL.trans e.symm)), List.append_nil]
      · rfl

def blocksFor (L : List Nat) : List (List Nat × List Shape) → List Shape
  | [] => []
  | (l, ss) :: rest => (if l = L then ss else []) ++ blocksFor L rest

/-- several LAYER blocks with the same name inside one pin / OBS: the shapes recorded for a layer name are the shapes of
    all its blocks, in block order; nothing dropped, nothing moved to another layer -/
theorem c16_layer_blocks : ∀ (lgs : List LayerGeoms) (m0 m : List (List Nat × List Shape)),
    importLayerList m0 lgs = .ok m →
    ∃ blocks : List (List Nat × List Shape), lgs.map importLayerGeoms = blocks.map .ok ∧
      ∀ L, shapesFor m L = shapesFor m0 L ++ blocksFor L blocks := by
  intro lgs
  induction lgs with
  | nil => intro m0 m h; simp only [importLayerList, Out.ok.injEq] at h; subst h; exact ⟨[], rfl, by intro L; simp [blocksFor]⟩
  | cons lg rest ih =>
    intro m0 m h
    simp only [importLayerList] at h
    cases hb : importLayerGeoms lg with
    | err => simp [hb] at h
    | ok b =>
      obtain ⟨l, ss⟩ := b
      simp only [hb] at h
      obtain ⟨blocks, h1, h2⟩ := ih _ _ h
      refine ⟨(l, ss) :: blocks, by simp [hb, h1], ?_⟩
      intro L
      rw [h2 L, shapesFor_addShapes]
      simp [blocksFor, List.append_assoc]

example : importLayerList [] [⟨[77, 49], none, false, .none, [.rect ⟨⟨0, 0⟩, ⟨0, 0⟩⟩ ⟨⟨1, 0⟩, ⟨1, 0⟩⟩]⟩, ⟨[77, 50], none, false, .none, []⟩,
      ⟨[77, 49], none, false, .none, [.rect ⟨⟨2, 0⟩, ⟨2, 0⟩⟩ ⟨⟨3, 0⟩, ⟨3, 0⟩⟩]⟩] =
    .ok [([77, 49], [.rect ⟨0, 0⟩ ⟨10000, 10000⟩, .rect ⟨20000, 20000⟩ ⟨30000, 30000⟩]), ([77, 50], [])] := by decide

end L21.LefRaw
