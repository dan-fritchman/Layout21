import L21.Proofs.Dep
/-
C17 — dependency orderings are complete, duplicate-free and dependencies-first.

`order adj fuel items` models `DepOrder::order` (and the three hand-rolled copies) over an arbitrary finite digraph given by
its adjacency function.
-/
namespace L21.Dep

variable (adj : Nat → List Nat)

/-- every ordering produced: no duplicates; contains exactly the items reachable from the listed ones; every direct dependency
    of an element occurs strictly before it -/
theorem c17_sound (fuel : Nat) (items out : List Nat) (h : order adj fuel items = .ok out) :
    out.Nodup ∧
    (∀ x, x ∈ out ↔ ∃ i ∈ items, Reach adj i x) ∧
    (∀ l1 x l2, out = l1 ++ x :: l2 → ∀ d ∈ adj x, d ∈ l1) := by
  obtain ⟨ht, m, hu⟩ := order_ok_spec h
  exact ⟨ht.nodup, fun x => ⟨hu x, fun ⟨i, hi, r⟩ => ht.reach_closed (m i hi) r⟩, ht.deps_before⟩

/-- if a cycle (self-loops included) is reachable from the listed items, no ordering is produced -/
theorem c17_cycle_error (fuel : Nat) (items : List Nat)
    (hc : ∃ i ∈ items, ∃ x, Reach adj i x ∧ ∃ d ∈ adj x, Reach adj d x) :
    ∀ out, order adj fuel items ≠ .ok out := by
  intro out h
  obtain ⟨ht, m, -⟩ := order_ok_spec h
  obtain ⟨i, hi, x, rx, d, hd, rd⟩ := hc
  exact ht.acyclic x (ht.reach_closed (m i hi) rx) d hd rd

/-- budget `n + 1` on nodes `< n` is never exhausted: the property's "does not recurse without bound" -/
theorem c17_depth (n : Nat) (items : List Nat) (hb : Bounded adj n) (hi : ∀ i ∈ items, i < n) :
    order adj (n + 1) items ≠ .fuel := by
  intro h
  -- `n + 1` distinct open frames, all reachable from the items, hence all `< n`
  obtain ⟨Q, hl, hnd, hq⟩ := order_fuel_spec h
  have := hnd.length_le_of_subset (l₂ := List.range n) fun q hq' =>
    let ⟨i, hi', r⟩ := hq q hq'; List.mem_range.2 (r.lt hb (hi i hi'))
  simp at this; omega

theorem c17_error_means_cycle (fuel : Nat) (items : List Nat) (h : order adj fuel items = .cycle) :
    HasCycle adj :=
  let ⟨y, _, d, hd, r⟩ := order_cycle_spec h
  ⟨y, d, hd, r⟩

/-- the reported cycle is one the listed items reach: the hypothesis of `c17_cycle_error` -/
theorem c17_error_cycle_reachable (fuel : Nat) (items : List Nat) (h : order adj fuel items = .cycle) :
    ∃ i ∈ items, ∃ x, Reach adj i x ∧ ∃ d ∈ adj x, Reach adj d x :=
  let ⟨y, ⟨i, hi, r⟩, c⟩ := order_cycle_spec h
  ⟨i, hi, y, r, c⟩

theorem c17_total (n : Nat) (items : List Nat) (hb : Bounded adj n) (hi : ∀ i ∈ items, i < n) :
    (∃ out, order adj (n + 1) items = .ok out) ∨ (order adj (n + 1) items = .cycle ∧ HasCycle adj) := by
  cases h : order adj (n + 1) items with
  | ok out => exact Or.inl ⟨out, rfl⟩
  | cycle => exact Or.inr ⟨rfl, c17_error_means_cycle adj _ _ h⟩
  | fuel => exact absurd h (c17_depth adj n items hb hi)

theorem c17_error_iff (n : Nat) (items : List Nat) (hb : Bounded adj n) (hi : ∀ i ∈ items, i < n) :
    order adj (n + 1) items = .cycle ↔ ∃ i ∈ items, ∃ x, Reach adj i x ∧ ∃ d ∈ adj x, Reach adj d x := by
  refine ⟨c17_error_cycle_reachable adj _ items, fun hc => ?_⟩
  rcases c17_total adj n items hb hi with ⟨out, h⟩ | ⟨h, -⟩
  · exact absurd h (c17_cycle_error adj _ items hc out)
  · exact h

theorem c17_acyclic_ok (n : Nat) (items : List Nat) (hb : Bounded adj n) (hi : ∀ i ∈ items, i < n)
    (hac : ¬ HasCycle adj) : ∃ out, order adj (n + 1) items = .ok out := by
  rcases c17_total adj n items hb hi with h | ⟨_, h⟩
  · exact h
  · exact absurd h hac

/-- listing order does not matter for the content (`hperm`: same items as sets) -/
theorem c17_listing (fuel : Nat) (items items' out out' : List Nat)
    (hperm : ∀ x, x ∈ items ↔ x ∈ items')
    (h : order adj fuel items = .ok out) (h' : order adj fuel items' = .ok out') :
    ∀ x, x ∈ out ↔ x ∈ out' := by
  intro x
  rw [(c17_sound adj fuel items out h).2.1 x, (c17_sound adj fuel items' out' h').2.1 x]
  constructor
  · rintro ⟨i, hi, r⟩; exact ⟨i, (hperm i).1 hi, r⟩
  · rintro ⟨i, hi, r⟩; exact ⟨i, (hperm i).2 hi, r⟩

/-- a listing with dependencies first is returned unchanged (`order_topo`, the hypothesis spelt out by positions): the order
    half of C14's and C19's clauses about cells listed before their users -/
theorem c17_sorted_listing_is_kept (adj : Nat → List Nat) (f : Nat) (items : List Nat) (hnd : items.Nodup)
    (hdeps : ∀ i (hi : i < items.length), ∀ d ∈ adj items[i], d ∈ items.take i) :
    order adj (f + 2) items = .ok items :=
  order_topo f (List.take_length (l := items) ▸ Topo.of_take hnd hdeps _ (Nat.le_refl _))

/-- the form every embedded orderer uses: nodes `0 … n-1` listed in index order, every dependency a smaller index -/
theorem c17_range_sorted (adj : Nat → List Nat) (n : Nat) (h : ∀ i, i < n → ∀ d ∈ adj i, d < i) :
    order adj (n + 1) (List.range n) = .ok (List.range n) := by
  cases n with
  | zero => simp [order, pushAll]
  | succ m => exact order_topo m (.range _ h)

-- a diamond with sharing, listed "users first": dependencies still come out first
example : order (adjOf [[1, 2], [3], [3], []]) 5 [0, 1, 2, 3] = .ok [3, 1, 2, 0] := by
  rw [order_eq]; decide +kernel
example : order (adjOf [[0]]) 2 [0] = .cycle := by rw [order_eq]; decide +kernel
example : order (adjOf [[1], [0]]) 3 [0, 1] = .cycle := by rw [order_eq]; decide +kernel
example : Bounded (adjOf [[1, 2], [3], [3], []]) 4 := by
  intro x d hd
  unfold adjOf at hd
  match x, hd with
  | 0, hd => simp at hd; omega
  | 1, hd => simp at hd; omega
  | 2, hd => simp at hd; omega
  | 3, hd => simp at hd
  | n + 4, hd => simp at hd

-- 0 ← 1 ← 2, 0 ← 2 listed as 0 1 2
example : order (adjOf [[], [0], [1, 0]]) 4 [0, 1, 2] = .ok [0, 1, 2] :=
  c17_sorted_listing_is_kept _ 2 _ (by decide) (by decide)

end L21.Dep
