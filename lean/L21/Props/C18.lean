import L21.Gen.SerdeFields
/-
C18 — JSON and YAML copies of GDSII and LEF libraries are lossless (derive layer).

The field tables are regenerated from gds21/src/data.rs and lef21/src/data.rs on every run.
-/
namespace L21.Serde

/-- what is written is read back (`Some(unit-like)` apart, which is written like `None`) -/
theorem fromTree_toTree (ty : Ty) (v : Val) (hty : ty ≠ .opt true) (hv : wellTyped ty v = true) :
    fromTree ty (toTree ty v) = some v := by
  rcases ty with _ | _ | (_ | _) | _ | _
  case opt.true => exact absurd rfl hty
  all_goals cases v <;> first | rfl | cases hv

/-- rule by rule: the value it skips (`hs`; `hv` for `always`), then the one type it is consistent with (`hc`) -/
theorem skipped_default (ty : Ty) (hasDefault : Bool) (skip : Skip) (v : Val)
    (hc : consistent ty hasDefault skip = true) (hv : wellTyped ty v = true) (hs : skipped skip v = true) :
    de ty hasDefault none = some v := by
  cases skip
  case never => cases hs
  case always => rcases ty with _ | _ | (_ | _) | _ | _ <;> cases hasDefault <;> cases hc <;> cases v <;> cases hv <;> rfl
  case ifNone => cases v <;> cases hs <;> rcases ty with _ | _ | (_ | _) | _ | _ <;> cases hc <;> cases hasDefault <;> rfl
  case ifEmpty =>
    rcases v with _ | _ | _ | _ | (_ | _) | _ <;> cases hs <;> rcases ty with _ | _ | (_ | _) | _ | _ <;> cases hasDefault <;>
      cases hc <;> rfl
  case ifFalse =>
    rcases v with _ | (_ | _) | _ | _ | _ | _ <;> cases hs <;> rcases ty with _ | _ | (_ | _) | _ | _ <;> cases hasDefault <;>
      cases hc <;> rfl

/-- a field with a consistent (type, default, skip) triple round-trips: what is skipped comes back as the default and
    equals it, what is written is read back -/
theorem c18_field_roundtrip (ty : Ty) (hasDefault : Bool) (skip : Skip) (v : Val)
    (hc : consistent ty hasDefault skip = true) (hv : wellTyped ty v = true) :
    de ty hasDefault (ser ty skip v) = some v := by
  unfold ser
  split
  · exact skipped_default ty hasDefault skip v hc hv ‹_›
  · refine fromTree_toTree ty v (fun e => ?_) hv
    subst e
    cases hc

/-- the two inconsistent shapes that occur in the LEF data model lose a value: a `bool` that is never written comes back
    `false`, and `Some(unit-like)` comes back `None` whatever the attributes -/
theorem c18_bool_skip_always_loses (hasDefault : Bool) :
    de .bool hasDefault (ser .bool .always (.bool true)) ≠ some (.bool true) := by
  cases hasDefault <;> simp [ser, skipped, de, defaultOf]

theorem c18_option_unit_loses (hasDefault : Bool) (skip : Skip) :
    de (.opt true) hasDefault (ser (.opt true) skip (.some 0)) ≠ some (.some 0) := by
  cases hasDefault <;> cases skip <;> simp [ser, skipped, de, toTree, fromTree, defaultOf]

def rowOk (r : String × String × Ty × Bool × Skip) : Bool := consistent r.2.2.1 r.2.2.2.1 r.2.2.2.2

/-- every field of the GDSII data model is consistent -/
theorem c18_gds_schema : Gen.gdsSerdeFields.all rowOk = true := by decide +kernel

/-- fields of the LEF data model that are not consistent on the present source, the known findings of C18 (`fixed_mask: bool`
    written never and read as false; `Option<Unsupported>`, whose `Some(Unsupported)` is indistinguishable from `None`);
    pinned by name: any other inconsistent field breaks `c18_lef_schema_partial` -/
def lefKnownLossy : List (String × String) := [
  ("LefLibrary", "fixed_mask"), ("LefLibrary", "layers"), ("LefLibrary", "max_via_stack"),
  ("LefLibrary", "via_rules"), ("LefLibrary", "via_rule_generators"), ("LefLibrary", "non_default_rules"),
  ("LefMacro", "fixed_mask"), ("LefViaDef", "properties"), ("LefGeneratedViaDef", "pattern"), ("LefSite", "row_pattern")]

theorem c18_lef_schema_partial :
    (Gen.lefSerdeFields.filter (fun r => !lefKnownLossy.contains (r.1, r.2.1))).all rowOk = true := by decide +kernel

/-- the pinned fields are lossy: the list above is not a blanket excuse -/
theorem c18_lef_known_lossy :
    (Gen.lefSerdeFields.filter (fun r => lefKnownLossy.contains (r.1, r.2.1))).all (fun r => !rowOk r) = true ∧
    (Gen.lefSerdeFields.filter (fun r => lefKnownLossy.contains (r.1, r.2.1))).length = lefKnownLossy.length := by decide +kernel

example : de .bool true (ser .bool .always (.bool true)) = some (.bool false) := by decide   -- the fixed_mask loss
example : de (.opt false) true (ser (.opt false) .ifNone (.some 5)) = some (.some 5) := by decide

end L21.Serde
