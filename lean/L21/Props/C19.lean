import L21.Proofs.TProto
import L21.Props.C17
/-
C19 — gridded-layout libraries survive the trip through their protobuf schema.

Dependencies-first (`c17_sound`) is what makes every reference resolvable.  Abstract ports are outside the model.
-/
namespace L21.TProto
open L21.Dep

/-- importing the exported message yields the library name and exactly the cells of `ord`, in that order, renumbered
    (`renumCell`) -/
theorem c19_roundtrip (lib : Lib) (fuel : Nat) (ord : List Nat)
    (hord : Dep.order (deps lib.table) fuel lib.items = .ok ord) (wf : WF lib.table ord) :
    exportLib' lib fuel = some (exportOrdered lib ord) ∧
    importLib (exportOrdered lib ord) =
      some ⟨lib.name, ord.map (fun i => renumCell ord (getC lib.table i)), List.range ord.length⟩ := by
  have hdeps := (c17_sound (deps lib.table) fuel lib.items ord hord).2.2
  refine ⟨by simp [exportLib', hord], ?_⟩
  simp [importLib, exportOrdered, imCells_export lib.table ord wf hdeps]

/-- a library whose registered cells are listed after the cells they instantiate is exported in that order: the export of a
    library imported from a message lists the cells as the message did (`hne`: `order_topo` needs a budget of two frames) -/
theorem c19_listed_order_is_export_order (lib : Lib) (hne : 1 ≤ lib.table.length) (hnd : lib.items.Nodup)
    (hdeps : ∀ i (hi : i < lib.items.length), ∀ d ∈ deps lib.table lib.items[i], d ∈ lib.items.take i) :
    exportLib lib = some (exportOrdered lib lib.items) := by
  unfold exportLib exportLib'
  obtain ⟨n, hn⟩ : ∃ n, lib.table.length + 1 = n + 2 := ⟨lib.table.length - 1, by omega⟩
  rw [hn, Dep.c17_sorted_listing_is_kept (deps lib.table) n lib.items hnd hdeps]

theorem renumCell_name (ord : List Nat) (c : Cell) : (renumCell ord c).name = c.name := rfl

/-- what survives renumbering: name, outline steps, metal count, assignments, cuts, abstract; the instances keep name,
    location and both reflections, and point to the imported copy of the same target -/
theorem c19_cell_content (ord : List Nat) (c : Cell) :
    (renumCell ord c).name = c.name ∧ (renumCell ord c).abs = c.abs ∧
    (∀ l, c.layout = some l → ∃ l', (renumCell ord c).layout = some l' ∧
      l'.name = l.name ∧ l'.ox = l.ox ∧ l'.oy = l.oy ∧ l'.metals = l.metals ∧ l'.assigns = l.assigns ∧ l'.cuts = l.cuts ∧
      l'.insts.length = l.insts.length ∧
      ∀ k (hk : k < l.insts.length), ∃ i', l'.insts[k]? = some i' ∧ i'.name = l.insts[k].name ∧ i'.x = l.insts[k].x ∧
        i'.y = l.insts[k].y ∧ i'.rh = l.insts[k].rh ∧ i'.rv = l.insts[k].rv ∧ i'.cell = ord.idxOf l.insts[k].cell) := by
  refine ⟨rfl, rfl, ?_⟩
  intro l hl
  refine ⟨renumLayout ord l, by simp [renumCell, hl], rfl, rfl, rfl, rfl, rfl, rfl, by simp [renumLayout], ?_⟩
  intro k hk
  exact ⟨renumInst ord l.insts[k], by simp [renumLayout, hk], rfl, rfl, rfl, rfl, rfl, rfl⟩

/-! ### malformed messages are errors, in every context -/
theorem c19_err_no_outline (names : List Bytes) (p : PLayout) (h : p.outline = none) : imLayout names p = none := by
  simp [imLayout, h]
theorem c19_err_bad_outline (names : List Bytes) (p : PLayout) (o : POutline) (h : p.outline = some o)
    (hb : outlineOk o.x o.y = false ∨ o.metals < 0) : imLayout names p = none := by
  have : imOutline o = none := by
    unfold imOutline imNat
    rcases hb with hb | hb
    · by_cases hm : o.metals ≥ 0 <;> simp [hm, hb]
    · have : ¬ o.metals ≥ 0 := by omega
      simp [this]
  simp [imLayout, h, this]
theorem c19_err_inst_no_cell (names : List Bytes) (p : PInst) (h : p.cell = none ∨ p.cell = some none ∨ p.cell = some (some .ext)) :
    imInst names p = none := by
  rcases h with h | h | h <;> simp [imInst, h]
theorem c19_err_inst_undefined (names : List Bytes) (p : PInst) (n : Bytes) (h : p.cell = some (some (.loc n)))
    (hu : n ∉ names) : imInst names p = none := by
  have : lookup names n = none := lookupFrom_not_mem n names 0 none hu
  simp [imInst, h, this]
theorem c19_err_inst_no_loc (names : List Bytes) (p : PInst) (h : p.loc = none ∨ p.loc = some none ∨ p.loc = some (some .rel)) :
    imInst names p = none := by
  -- the location is read after the cell reference: whichever target that named, what follows is `none`
  rcases h with h | h | h <;> simp [imInst, h] <;> exact fun _ _ to _ => by cases to <;> rfl
theorem c19_err_assign (a : PAssign) (h : a.at_ = none) : imAssign a = none := by simp [imAssign, h]
theorem c19_err_cross (c : PCross) (h : c.track = none ∨ c.cross = none) : imCross c = none := by
  rcases h with h | h
  · simp [imCross, h]
  · cases ht : c.track <;> simp [imCross, h, ht]
/-- nothing is skipped silently: an instance's error is its layout's, a layout's its cell's, and the error of the cell
    `imCells` is reading ends `imCells` (one step of its recursion; a later cell's error is not followed up here) -/
theorem c19_err_propagates_inst (names : List Bytes) (p : PLayout) (i : PInst) (hi : i ∈ p.insts)
    (he : imInst names i = none) : imLayout names p = none := by
  have := mapM_none_of_mem (imInst names) he p.insts hi
  unfold imLayout
  cases p.outline with
  | none => simp
  | some o => cases imOutline o <;> simp [this]
theorem c19_err_propagates_layout (names : List Bytes) (p : PCell) (l : PLayout) (h : p.layout = some l)
    (he : imLayout names l = none) : imCell names p = none := by
  simp [imCell, imLayoutOpt, h, he]
theorem c19_err_propagates_cell (p : PCell) (ps : List PCell) (acc : List Cell)
    (he : imCell (acc.map (·.name)) p = none) : imCells (p :: ps) acc = none := by
  simp [imCells, he]

/-! ### non-vacuity: a diamond listed users-first, with reflections, is exported dependencies-first
    and comes back intact -/
def leaf (n : Nat) : Cell := ⟨[n], some ⟨[], [4, 2], [1, 3], 2, [], [⟨[1], ⟨⟨1, 2⟩, ⟨2, 3⟩⟩⟩], [⟨⟨0, 1⟩, ⟨1, 0⟩⟩]⟩, none⟩
def user (n : Nat) (ts : List Nat) : Cell :=
  ⟨[n], some ⟨[], [9], [9], 3, ts.map (fun t => ⟨[t], t, -1, 2, true, false⟩), [], []⟩, some ⟨[7], [9], [9], 3⟩⟩
def demo : Lib := ⟨[42], [user 10 [1, 2], user 11 [3], user 12 [3], leaf 13], [0, 1, 2, 3]⟩
example : Dep.order (deps demo.table) 5 demo.items = .ok [3, 1, 2, 0] := by
  rw [Dep.order_eq]; decide +kernel
example : ((exportLib' demo 5).bind importLib).map
      (fun l => l.table.map fun c => (c.name, (c.layout.map fun l => l.insts.map (·.cell)).getD [])) =
    some [([13], []), ([11], [0]), ([12], [0]), ([10], [1, 2])] := by
  rw [exportLib', Dep.order_eq]; decide +kernel
/-- the hypotheses of `c19_roundtrip` are satisfiable by that library -/
example : WF demo.table [3, 1, 2, 0] :=
  ⟨fun i hi => (cellOutlinesOk_iff _).2 (by revert i; decide +kernel), by decide +kernel⟩

end L21.TProto
