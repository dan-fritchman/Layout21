import L21.Proofs.Layers
/-
The layer / purpose tables (`layout21raw::data::{Layer, Layers}`) under histories.  The tables sit under C06 / C07 / C14 / C16:
every import registers numbers in them, every export looks numbers up.  A history is any sequence of calls of one operation;
sequences that mix operations are not covered.
* `add_purpose` on a layer (`layer_num_*`): a purpose has the number of its last registration, so once registered it never
  loses its number, whatever is registered afterwards (its number re-used for another purpose included).  Seeded changes
  C07-m12 / C14-m12 ("keep the two lookups in sync") break this.
* `get_or_insert` on a `WF` table: what an importer registers, an exporter finds under the same numbers.
* `LefImporter::import_layer` on a `WF ∧ WFN` table.
-/
namespace L21.Layers

theorem layer_num_persists (l l' : Layer) (m : Int) (q p : Purpose) (h : l.addPurpose m q = some l') (hp : (l.num p).isSome = true) :
    (l'.num p).isSome = true := by
  rw [layer_num_after_add h]; split <;> simp [hp]

theorem layer_num_after_history : ∀ (ops : List (Int × Purpose)) (l l' : Layer) (p : Purpose), addMany l ops = some l' →
    l'.num p = lastReg p ops (l.num p)
  | [], l, l', p, h => by cases h; rfl
  | (m, q) :: r, l, l', p, h => by
    obtain ⟨l1, h1, h2⟩ := Option.bind_eq_some_iff.1 h
    rw [layer_num_after_history r l1 l' p h2, layer_num_after_add h1]
    rfl

/-- a registered purpose still has a number after any history: nothing that holds it becomes un-exportable -/
theorem layer_num_never_forgets (ops : List (Int × Purpose)) (l l' : Layer) (p : Purpose) (h : addMany l ops = some l')
    (hp : (l.num p).isSome = true) : (l'.num p).isSome = true := by
  rw [layer_num_after_history ops l l' p h]; exact lastReg_isSome p ops _ hp

theorem get_or_insert_fidelity (ls ls' : Layers) (ln pn : Int) (key : Nat) (q : Purpose) (h : WF ls)
    (hg : ls.getOrInsert ln pn = some (ls', key, q)) :
    WF ls' ∧ ∃ l, ls'.get key = some l ∧ l.layernum = ln ∧ l.num q = some pn :=
  ⟨(getOrInsert_spec h hg).1, layerspec_eq_some.1 (getOrInsert_spec h hg).2.2⟩

theorem get_or_insert_history : ∀ (reqs : List (Int × Int)) (ls ls' : Layers) (out : List (Nat × Purpose)), WF ls →
    getOrInsertMany ls reqs = some (ls', out) → WF ls' :=
  fun _ _ _ _ h hg => (getOrInsertMany_spec h hg).1

/-- a whole import: after any sequence of `get_or_insert` calls every returned (key, purpose) still looks up, through
    `export_layerspec`, to the numbers it was requested with: each shape comes out on the layer / datatype it came in on -/
theorem import_history_numbers : ∀ (reqs : List (Int × Int)) (ls ls' : Layers) (out : List (Nat × Purpose)), WF ls →
    getOrInsertMany ls reqs = some (ls', out) →
    out.length = reqs.length ∧ ∀ i (hi : i < reqs.length) (ho : i < out.length),
      ls'.layerspec out[i].1 out[i].2 = some reqs[i] :=
  fun _ _ _ _ h hg => (getOrInsertMany_spec h hg).2.2

/-- `import_layer name` returns a key whose layer carries that name, never disturbs the number or name of a layer created
    before (the new layer takes a number nobody has), and keeps both indices consistent -/
theorem import_by_name_fidelity (ls ls' : Layers) (name : Bytes) (key : Nat) (h : WF ls) (hn : WFN ls)
    (hg : ls.importByName name = some (ls', key)) :
    WF ls' ∧ WFN ls' ∧ ls'.getName key = some name ∧ (∀ (k : Nat) (l : Layer), ls.slots[k]? = some l → ls'.slots[k]? = some l) ∧
    (∀ (m : Int) (k : Nat), ls.keynum m = some k → ls'.keynum m = some k) := by
  obtain ⟨⟨a, b⟩, c, d, e⟩ := importByName_spec ⟨h, hn⟩ hg
  exact ⟨a, b, d, c, e⟩

/-- a whole LEF import: after any sequence of `import_layer` calls every returned key still carries the name it was
    requested with: geometry lands on the layer named in the LEF, whatever other layers were created in between -/
theorem import_names_history : ∀ (names : List Bytes) (ls ls' : Layers) (keys : List Nat), WF ls → WFN ls →
    importByNameMany ls names = some (ls', keys) →
    WF ls' ∧ WFN ls' ∧ keys.length = names.length ∧
    (∀ (k : Nat) (l : Layer), ls.slots[k]? = some l → ls'.slots[k]? = some l) ∧
    ∀ i (hi : i < names.length) (hk : i < keys.length), ls'.getName keys[i] = some names[i] := by
  intro names ls ls' keys h hn hg
  obtain ⟨⟨a, b⟩, c, d, e⟩ := importByNameMany_spec ⟨h, hn⟩ hg
  exact ⟨a, b, d, c, e⟩

/-! non-vacuity: the empty table is well-formed; a purpose registered twice keeps its last number; the C07-m12 history -/
example : WF {} := ⟨by intro n k h; simp [Layers.keynum, amGet] at h, by intro l h; simp at h⟩
example : WFN {} := by intro s k h; simp [Layers.keyname, amGet] at h
example : (addMany ⟨68, none, [], []⟩ [(20, .other 20), (5, .label), (20, .drawing)]).bind (fun l => l.num (.other 20)) = some 20 := by decide

end L21.Layers
