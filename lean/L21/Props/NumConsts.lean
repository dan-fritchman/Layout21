import L21.Gen.NumConsts
import L21.Model.LefEnum
import L21.Model.LefRaw
import L21.Model.RawLef
/-
Numeric tables of the LEF paths, regenerated from the source on every run (`Gen/NumConsts.lean`), against the constants
the hand-written models use.  A change of one of these numbers in the code breaks the obligation here (and the
correspondence of the property whose model uses it).
-/
namespace L21

/-- C04 / C05: the legal DATABASE MICRONS values of the reader model are the source's -/
theorem c04_dbu_table_is_source : LefEnum.legalDbu = Gen.legalDbuSrc := by decide

/-- C16: the importer model's raw units per micron is the source's `dist_scale` -/
theorem c16_dist_scale_is_source : LefRaw.unitsPerMicron = Gen.lefImportDistScaleSrc := by decide

/-- C20 (raw → LEF model): the unit table of `exportUnits` is the source's `match`, filtered by the source's
    legal DATABASE MICRONS list, in the order of the `Units` enum -/
theorem c20_lef_units_from_source :
    Gen.lefExportScaleSrc.map (·.1) = ["Micro", "Nano", "Angstrom", "Pico"] ∧
    ∀ u, u < 4 → RawLef.exportUnits u =
      (match Gen.lefExportScaleSrc[u]? with
       | some (_, sc) => if Gen.legalDbuSrc.contains sc then .ok sc else .err
       | none => .err) := by decide +kernel

/-- C16: `LefImporter::import_layer` makes exactly the calls `Layers.importByName` models, in that order:
    look the name up, else take the next free number, build a layer of that number and name, add it -/
theorem c16_import_layer_calls : Gen.lefImportLayerCalls = ["keyname", "nextnum", "Layer::new", "add"] := by decide +kernel

end L21
